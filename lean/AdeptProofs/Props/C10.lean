import AdeptProofs.Lemmas.StackProto
/-!
# C10 — a recording can be replayed, re-seeded, paused and restarted without residue

Over `AdeptModel/StackProto.lean` (the protocol state of `adept::Stack` over integer tapes).  Purity of a pass rests on `Rel`
(`Lemmas/StackProto.lean`), which the first seed after `clear_gradients` establishes; each array form is shown to be the
scalar form repeated.
-/
namespace Adept.StackProto
open Adept.Tape Adept.GradAlloc

/-- After `clear_gradients()`, the first seed re-creates the working vector from nothing: whatever the
    vector held before (results of earlier passes, earlier seeds), it is now zero except for the seed. -/
theorem C10_first_seed_forgets (s : St) (idx : Nat) (v : Int) (h : idx < s.ga.maxGrad) :
    (({ s with gradInit := false }).seed idx v).1.grad = (List.replicate s.ga.maxGrad 0).set idx v ∧
    (({ s with gradInit := false }).seed idx v).2 = none := by
  rw [seed_of_not_init _ idx v rfl, seed_of_init _ idx v (initGradients_gradInit _),
    initGradients_grad]
  have hlen : ¬ (idx + 1 > (List.replicate ({ s with gradInit := false } : St).ga.maxGrad (0 : Int)).length) := by
    rw [List.length_replicate]
    show ¬ (idx + 1 > s.ga.maxGrad)
    omega
  rw [if_neg hlen]
  exact ⟨rfl, rfl⟩

section
-- `hb` is not needed
set_option linter.unusedVariables false

/-- Hence a pass is a function of the recording and of the seeds set since the last `clear_gradients`
    only: two stacks with the same tape and the same number of gradients, whatever their earlier history
    of passes, give the same result for the same seeds — forward … -/
theorem C10_pass_pure_fwd (s₁ s₂ : St) (seeds : List (Nat × Int)) (ht : s₁.tape = s₂.tape)
    (hm : s₁.ga.maxGrad = s₂.ga.maxGrad) (hs : seeds ≠ []) (hb : ∀ p ∈ seeds, p.1 < s₁.ga.maxGrad) :
    (seedAll { s₁ with gradInit := false } seeds).forward.toOption.map (·.grad) =
    (seedAll { s₂ with gradInit := false } seeds).forward.toOption.map (·.grad) :=
  (rel_cleared s₁ s₂ seeds ht hm hs).forward

/-- … and reverse. -/
theorem C10_pass_pure_rev (s₁ s₂ : St) (seeds : List (Nat × Int)) (ht : s₁.tape = s₂.tape)
    (hm : s₁.ga.maxGrad = s₂.ga.maxGrad) (hs : seeds ≠ []) (hb : ∀ p ∈ seeds, p.1 < s₁.ga.maxGrad) :
    (seedAll { s₁ with gradInit := false } seeds).reverse.toOption.map (·.grad) =
    (seedAll { s₂ with gradInit := false } seeds).reverse.toOption.map (·.grad) :=
  (rel_cleared s₁ s₂ seeds ht hm hs).reverse

end

/-- A Jacobian request uses private buffers: its result does not depend on the working gradient vector
    or on whether gradients are initialised, only on tape, lists, configuration and thread settings. -/
theorem C10_jacobian_ignores_gradients (s : St) (g : List Int) (b : Bool) (mode : JMode) (dO iO : Int)
    (nc : Nat) (fill : Int) :
    ({ s with grad := g, gradInit := b }).jacPtr mode dO iO nc fill = s.jacPtr mode dO iO nc fill := rfl

/-- `new_recording` discards every statement, every pending operation, both variable lists and the
    seeds; the number of gradients needed restarts from the live objects. -/
theorem C10_new_recording_forgets (s : St) :
    let s' := newRec s
    s'.tape = [] ∧ s'.pend = [] ∧ s'.indep = [] ∧ s'.dep = [] ∧ s'.gradInit = false ∧
    s'.ga.maxGrad = s.ga.iGrad + 1 ∧ s'.vars = s.vars :=
  new_recording_forgets s

/-- While recording is paused (pausable build) an assignment computes the same value as when recording
    and records nothing: tape, pending operations and allocator are untouched. -/
theorem C10_pause_noop (s : St) (h : Nat) (x : Var) (e : RNode) (hp : s.cfg.pausable = true)
    (hr : s.recording = false) (s' : St) (v : Int) (ha : s.assign h x e = some (s', v)) :
    e.eval s = some v ∧ s'.tape = s.tape ∧ s'.pend = s.pend ∧ s'.ga = s.ga ∧
    s'.var? h = some { x with val := v } :=
  pause_noop s h x e hp hr s' v ha

/-- … whereas when recording, the same assignment gives the same value and appends exactly one statement
    whose left-hand side is the target's gradient index. -/
theorem C10_assign_records_one (s : St) (h : Nat) (x : Var) (e : RNode) (hr : s.isRecording = true)
    (hpe : s.pend = []) (s' : St) (v : Int) (ha : s.assign h x e = some (s', v)) :
    e.eval s = some v ∧ s'.tape = s.tape ++ [⟨x.idx, e.grad s none⟩] ∧ s'.pend = [] := by
  unfold St.assign at ha
  cases hev : e.eval s with
  | none => simp [hev] at ha
  | some w =>
    simp [hev, hr] at ha
    obtain ⟨rfl, rfl⟩ := ha
    exact ⟨rfl, pushRhs_pushLhs s _ _ hpe⟩

/-- A dependence supplied by `add_derivative_dependence(x, m)` acts in the tangent-linear sweep exactly as
    the linear statement `d[lhs] = m·d[x]` (and as `d[lhs] = 0` when `m = 0`, which pushes no operation). -/
theorem C10_dependence_is_statement (lhs x : Nat) (m : Int) (g : Vec Int) :
    fwdStep (addDep lhs x m) g = g.set lhs (m * rd g x) :=
  dependence_is_statement lhs x m g

/-- `append_derivative_dependence` extends that statement by one more term. -/
theorem C10_append_is_extension (st : Stmt Int) (x : Nat) (m : Int) (g : Vec Int) :
    fwdStep (appendDep st x m) g = g.set st.lhs (rhsVal st.ops g + m * rd g x) := by
  unfold fwdStep appendDep
  by_cases hm : m = 0
  · subst hm
    simp [rhsVal]
  · simp [rhsVal, hm, List.foldl_append]

/-- On a recording stack with no half-built statement, `add_derivative_dependence` appends exactly the
    statement `addDep`. -/
theorem C10_add_dependence_records (s : St) (lhs x : Nat) (m : Int) (hr : s.isRecording = true)
    (hp : s.pend = []) :
    (s.addDependence lhs x m).tape = s.tape ++ [addDep lhs x m] ∧ (s.addDependence lhs x m).pend = [] := by
  unfold St.addDependence
  by_cases hm : m = 0
  · subst hm
    simp [hr, St.pushLhs, addDep, hp]
  · simp [hr, St.pushLhs, St.pushRhs, addDep, hp, hm]

/-- `append_derivative_dependence` to the variable of the most recent statement replaces that statement by
    its extension; to any other variable it raises `wrong_gradient` (and, returning no new state, changes
    nothing). -/
theorem C10_append_dependence (s : St) (lhs x : Nat) (m : Int) (hr : s.isRecording = true) :
    (∀ last, s.tape.getLast? = some last → last.lhs = lhs →
        s.appendDependence lhs x m = .ok { s with tape := s.tape.dropLast ++ [appendDep last x m] }) ∧
    ((∀ last, s.tape.getLast? = some last → last.lhs ≠ lhs) →
        s.appendDependence lhs x m = .error .wrong_gradient) :=
  append_dependence s lhs x m hr

/-- ARRAY FORMS (`y.add_derivative_dependence(x, dy_dx, n, multiplier_stride)` of Active, ActiveReference and
    ActiveConstReference).  For EVERY term list — any length, repeated right-hand sides, zero multipliers, whatever the
    multiplier stride — the relation acts in the tangent-linear sweep exactly as the linear statement it describes,
    `d[lhs] = Σⱼ mⱼ·d[xⱼ]` (the zero multipliers, which push no operation, contribute nothing) … -/
theorem C10_dependence_array_is_statement (lhs : Nat) (ts : List (Nat × Int)) (g : Vec Int) :
    fwdStep (addDepN lhs ts) g = g.set lhs (termSum ts g) := by
  unfold fwdStep addDepN
  simp only [rhsVal_depOps]

/-- … the array form of `append_derivative_dependence` extends the statement by `Σⱼ mⱼ·d[xⱼ]` … -/
theorem C10_append_array_is_extension (st : Stmt Int) (ts : List (Nat × Int)) (g : Vec Int) :
    fwdStep (appendDepN st ts) g = g.set st.lhs (rhsVal st.ops g + termSum ts g) := by
  unfold fwdStep appendDepN
  rw [rhsVal_eq_sum, List.map_append, List.sum_append, ← rhsVal_eq_sum, ← rhsVal_eq_sum, rhsVal_depOps]

/-- … on a recording stack the array form appends exactly that one statement; the array form of append replaces the last
    statement by its extension when called on the variable of the last statement and raises `wrong_gradient` otherwise,
    having pushed nothing; and while recording is paused neither form records anything. -/
theorem C10_dependence_array_records (s : St) (lhs : Nat) (ts : List (Nat × Int)) :
    (s.isRecording = true → s.pend = [] →
        (s.addDependenceN lhs ts).tape = s.tape ++ [addDepN lhs ts] ∧ (s.addDependenceN lhs ts).pend = []) ∧
    (s.isRecording = true → ∀ last, s.tape.getLast? = some last → last.lhs = lhs →
        s.appendDependenceN lhs ts = .ok { s with tape := s.tape.dropLast ++ [appendDepN last ts] }) ∧
    (s.isRecording = true → (∀ last, s.tape.getLast? = some last → last.lhs ≠ lhs) →
        s.appendDependenceN lhs ts = .error .wrong_gradient) ∧
    (s.isRecording = false → s.addDependenceN lhs ts = s ∧ s.appendDependenceN lhs ts = .ok s) := by
  refine ⟨fun hr hp => ?_, fun hr last hl hlhs => ?_, fun hr hall => ?_, fun hr => ?_⟩
  · unfold St.addDependenceN
    rw [hr]
    exact pushRhs_pushLhs s _ lhs hp
  · unfold St.appendDependenceN
    simp [hr, hl, hlhs]
  · unfold St.appendDependenceN
    cases hl : s.tape.getLast? with
    | none => simp [hr]
    | some last => simp [hr, hall last hl]
  · unfold St.addDependenceN St.appendDependenceN
    simp [hr]

/-- The array form is the single-term form repeated: the first term added, the others appended one by one. -/
theorem C10_dependence_array_unfolds (lhs x : Nat) (m : Int) (ts : List (Nat × Int)) (st : Stmt Int) :
    addDepN lhs ((x, m) :: ts) = appendDepN (addDep lhs x m) ts ∧
    appendDepN st ((x, m) :: ts) = appendDepN (appendDep st x m) ts ∧
    addDepN lhs [] = ⟨lhs, []⟩ ∧ appendDepN st [] = st := by
  refine ⟨?_, ?_, rfl, by simp [appendDepN, depOps]⟩
  · unfold addDepN appendDepN addDep
    simp only [depOps_cons]
  · unfold appendDepN appendDep
    simp only [depOps_cons, List.append_assoc]

/-- a concrete relation: `d[7] = 2·d[1] + 0·d[2] − 3·d[1]` pushes two operations and evaluates to `−g[1]` -/
example : (addDepN 7 [(1, 2), (2, 0), (1, -3)]).ops = [(2, 1), (-3, 1)] ∧
    termSum [(1, 2), (2, 0), (1, -3)] [0, 5, 9] = -5 := ⟨rfl, rfl⟩

/-- The pointer-and-count forms `Stack::independent(const A* x, n)` / `dependent(const A* x, n)` are the scalar forms called on
    `x[0] … x[n-1]` in that order, for every `n`; `n = 0` changes nothing; each touches its own list only. -/
theorem C10_lists_array_is_repeated (s : St) (idxs : List Nat) :
    s.independentN idxs = idxs.foldl (fun s i => { s with indep := s.indep ++ [i] }) s ∧
    s.dependentN idxs = idxs.foldl (fun s i => { s with dep := s.dep ++ [i] }) s ∧
    s.independentN [] = s ∧ s.dependentN [] = s ∧
    (s.independentN idxs).dep = s.dep ∧ (s.dependentN idxs).indep = s.indep ∧
    (s.independentN idxs).tape = s.tape ∧ (s.dependentN idxs).tape = s.tape := by
  refine ⟨?_, ?_, by simp [St.independentN], by simp [St.dependentN], rfl, rfl, rfl, rfl⟩
  · induction idxs generalizing s with
    | nil => simp [St.independentN]
    | cons i rest ih => simp only [List.foldl_cons]; rw [← ih]; simp [St.independentN, List.append_assoc]
  · induction idxs generalizing s with
    | nil => simp [St.dependentN]
    | cons i rest ih => simp only [List.foldl_cons]; rw [← ih]; simp [St.dependentN, List.append_assoc]

/-- The free function `set_gradients(Active* a, n, data)`: when no element raises, it is exactly the `n` scalar `set_gradient`
    calls in order (so every statement about `seedAll` — `C10_pass_pure_fwd/rev` — is a statement about it). -/
theorem C10_set_gradients_array_is_seeds (s : St) (seeds : List (Nat × Int)) (h : (s.seedN seeds).2 = none) :
    (s.seedN seeds).1 = seedAll s seeds := by
  induction seeds generalizing s with
  | nil => rfl
  | cons p rest ih =>
    simp only [seedAll, List.foldl_cons]
    unfold St.seedN at h ⊢
    cases hs : s.seed p.1 p.2 with
    | mk s' o =>
      cases o with
      | none => simp only [hs] at h ⊢; exact ih s' h
      | some e => simp [hs] at h

/-- … and when an element raises, the loop ends there: the result is that of the scalar calls up to and including the failing one
    (the elements before it stay seeded), and the exception is the scalar call's. -/
theorem C10_set_gradients_array_stops (s : St) (pre post : List (Nat × Int)) (p : Nat × Int) (e : Exc)
    (hpre : (s.seedN pre).2 = none) (hp : ((seedAll s pre).seed p.1 p.2).2 = some e) :
    s.seedN (pre ++ p :: post) = (seedAll s (pre ++ [p]), some e) := by
  induction pre generalizing s with
  | nil =>
    simp only [List.nil_append, seedAll, List.foldl_cons, List.foldl_nil] at hp ⊢
    unfold St.seedN
    cases hs : s.seed p.1 p.2 with
    | mk s' o => simp only [hs] at hp; subst hp; rfl
  | cons q rest ih =>
    unfold St.seedN at hpre
    simp only [List.cons_append, seedAll, List.foldl_cons] at hp ⊢
    unfold St.seedN
    cases hs : s.seed q.1 q.2 with
    | mk s' o =>
      cases o with
      | none => simp only [hs] at hpre hp ⊢; exact ih s' hpre hp
      | some e' => simp [hs] at hpre

/-- The free function `get_gradients(const Active* a, n, data)`: it succeeds exactly with the results of the `n` scalar
    `get_gradient` calls, element by element. -/
theorem C10_get_gradients_array (s : St) (idxs : List Nat) (gs : List Int) (h : s.getGradN idxs = .ok gs) :
    List.Forall₂ (fun i g => s.getGrad i = .ok g) idxs gs := by
  induction idxs generalizing gs with
  | nil => unfold St.getGradN at h; cases h; exact .nil
  | cons i rest ih =>
    unfold St.getGradN at h
    cases hg : s.getGrad i with
    | error e => simp [hg] at h
    | ok g =>
      cases hr : s.getGradN rest with
      | error e => simp [hg, hr] at h
      | ok gs' =>
        simp only [hg, hr] at h
        cases h
        exact .cons hg (ih gs' hr)

/-- non-vacuity: three seeds at once on a fresh two-gradient stack succeed; with an index out of range the call raises after the
    first seed took effect -/
example : (({ ga := { maxGrad := 2 } } : St).seedN [(0, 3), (1, -1), (0, 4)]).2 = none ∧
    (({ ga := { maxGrad := 2 } } : St).seedN [(0, 3), (1, -1), (0, 4)]).1.grad = [4, -1] ∧
    (({ ga := { maxGrad := 2 } } : St).seedN [(0, 3), (5, 1), (1, 1)]).2 = some .gradient_out_of_range ∧
    (({ ga := { maxGrad := 2 } } : St).seedN [(0, 3), (5, 1), (1, 1)]).1.grad = [3, 0] := ⟨rfl, rfl, rfl, rfl⟩

/-! Non-vacuity of `C10_pause_noop`: a paused pausable stack with one live variable. -/
example : ∃ s : St, s.cfg.pausable = true ∧ s.recording = false ∧
    (s.assign 0 ⟨0, 2⟩ (.mul (.v 0) (.c 3))).isSome = true :=
  ⟨{ cfg := { pausable := true }, recording := false, vars := [(0, ⟨0, 2⟩)] }, rfl, rfl, rfl⟩

end Adept.StackProto
