import AdeptProofs.Lemmas.Solve
import AdeptProofs.Lemmas.LapackInstance
/-!
# C16 — solve and inv satisfy their defining equations (marshalling proved; LAPACK's numerics assumed)

The lemmas about the single entry points live in `AdeptProofs/Lemmas/Solve.lean`.
All statements are about `AdeptModel/Solve.lean`, the transcription of `adept/solve.cpp`, `adept/inv.cpp`,
`adept/cpplapack.h` and the overload sets of `include/adept/solve.h`, `include/adept/inv.h`; the correspondence
check (checks/c16.py) ties that model to the C++ on every run (logged LAPACK arguments, exception classes,
operands after the call).

Every theorem is `∀ L, Contract L → …`: `L` is ANY implementation of `?gesv ?sysv ?getrf ?getri ?sytrf ?sytri`
meeting the contract of `AdeptModel/Lapack.lean` (a hypothesis, not an axiom; `AdeptProofs/Lemmas/LapackInstance.lean`
shows that the contract is satisfiable over every field).  The carrier `α` is any type with `0 1 + *` — in
particular every field, `Rat` included: no algebraic law is used, the numerical content is the contract's.
What is NOT proved: that a floating-point LAPACK meets the contract up to the condition-number bound
(observed by checks/c16.py, level "exploration" for that part).

Vocabulary: `Mat`/`Vec`/`Sym` are operands as seen through `operator()` (a view of ANY layout or an expression);
`MatArg`/`VecArg` say which overload the argument selects (`dense`/`obj`: an `Array` object, i.e. any view;
`symm`: a `SymmMatrix` object of either orientation; `expr`: any other expression, e.g. `2.0*A`).
`Heap.Extends h h'`: no buffer that existed in `h` has been written.
-/
-- every statement carries the instances `0 1 + *`, whether or not it speaks of sums
set_option linter.unusedSectionVars false
namespace Adept.Solve
open Adept.Lapack

variable {α : Type} [Zero α] [One α] [Add α] [Mul α] (L : Impl α)

/-- `solve(A,b)`, general square `A` (an `Array<2>` of any layout) and vector `b` (any layout): whenever a
    value `x` is returned, `A·x = b`. -/
theorem C16_solve_general (hL : Contract L) (h : Heap α) (A : Mat α) (b : Vec α)
    (hsq : A.rows = A.cols) (hb : b.n = A.rows) (x : Vec α) (hx : (solveGenVec L h A b).res = .ok x) :
    x.n = b.n ∧ ∀ i, i < A.rows → sumTo A.rows (fun j => A.get i j * x.get j) = b.get i :=
  (solveGenVec_spec L hL h A b hsq hb).1 x hx

/-- `solve(A,B)`, general square `A` and a right-hand side with any number of columns, every layout of `A`
    and of `B`: whenever `X` is returned it has the shape of `B` and `A·X = B`. -/
theorem C16_solve_general_multi (hL : Contract L) (h : Heap α) (A B : Mat α)
    (hsq : A.rows = A.cols) (hb : B.rows = A.rows) (X : Mat α) (hX : (solveGenMat L h A B).res = .ok X) :
    X.rows = B.rows ∧ X.cols = B.cols ∧ IsSolution A.rows B.cols A.get X.get B.get :=
  (solveGenMat_spec L hL h A B hsq hb).1 X hX

/-- The orientation ↦ `uplo` lemma, both directions and both orientations.
    Input: the temporary `A_` (offset `n`; only the stored triangle is copied, the other elements are whatever
    the allocation held) read by Fortran as column-major with `uplo = 'U'` for `ROW_LOWER_COL_UPPER` and `'L'`
    for `ROW_UPPER_COL_LOWER` is the operand.  Output: a buffer read back as a `SymmMatrix` of the same
    orientation is the symmetric matrix that `(uplo, lda = n)` denotes. -/
theorem C16_uplo_orientation (S : Sym α) (junk : Buf α) (hsym : ∀ i j, S.get i j = S.get j i) :
    (∀ i j, i < S.n → j < S.n → syMat (uploOf S.orient) S.n (fillSym S junk) i j = S.get i j) ∧
    (∀ (buf : Buf α) i j, (Sym.ofStorage S.orient S.n 0 S.n buf).get i j = syMat (uploOf S.orient) S.n buf i j) :=
  ⟨fun _ _ hi hj => fillSym_syMat S junk hsym hi hj, fun buf i j => ofStorage_syMat S.orient S.n buf i j⟩

/-- a `SymmMatrix` object in storage is symmetric, whatever the storage holds (so `hsym` below is not a
    restriction on operands that are `SymmMatrix` objects) -/
theorem C16_symm_object_symmetric (o : Orient) (n off offset : Nat) (buf : Buf α) (i j : Nat) :
    (Sym.ofStorage o n off offset buf).get i j = (Sym.ofStorage o n off offset buf).get j i :=
  Sym.ofStorage_symm o n off offset buf i j

/-- `solve(S,b)` and `solve(S,B)` for a `SymmMatrix` `S` of EITHER orientation (`S.orient` is universally
    quantified): whenever a value is returned it solves the system with the symmetric matrix `S` stands for.
    The vector form includes its second attempt with `?gesv` (on the original operands, fix F-21). -/
theorem C16_solve_symm (hL : Contract L) (h : Heap α) (S : Sym α) (hsym : ∀ i j, S.get i j = S.get j i) :
    (∀ (b x : Vec α), b.n = S.n → (solveSymVec L h S b).res = .ok x →
        x.n = b.n ∧ ∀ i, i < S.n → sumTo S.n (fun j => S.get i j * x.get j) = b.get i) ∧
    (∀ (B X : Mat α), B.rows = S.n → (solveSymMat L h S B).res = .ok X →
        X.rows = B.rows ∧ X.cols = B.cols ∧ IsSolution S.n B.cols S.get X.get B.get) :=
  ⟨fun b x hb hx => (solveSymVec_spec L hL h S b hsym hb).1 x hx,
   fun B X hb hX => (solveSymMat_spec L hL h S B hsym hb).1 X hX⟩

/-- `solve` through the whole overload set — dense objects of any layout, `SymmMatrix` objects of either
    orientation, arbitrary expressions on either side (which the generic templates first evaluate into dense
    temporaries): a returned value satisfies the defining equation. -/
theorem C16_solve_any_form (hL : Contract L) (h : Heap α) (A : MatArg α) (hwf : A.WF)
    (hsq : A.mat.rows = A.mat.cols) :
    (∀ (b : VecArg α) (x : Vec α), b.vec.n = A.mat.rows → (solveVec L h A b).res = .ok x →
        x.n = b.vec.n ∧ ∀ i, i < A.mat.rows → sumTo A.mat.rows (fun j => A.mat.get i j * x.get j) = b.vec.get i) ∧
    (∀ (B : MatArg α) (X : Mat α), B.mat.rows = A.mat.rows → (solveMat L h A B).res = .ok X →
        X.rows = B.mat.rows ∧ X.cols = B.mat.cols ∧ IsSolution A.mat.rows B.mat.cols A.mat.get X.get B.mat.get) :=
  ⟨fun b x hb hx => (solveVec_spec L hL h A b hwf hsq hb).1 x hx,
   fun B X hb hX => (solveMat_spec L hL h A B hwf hsq hb).1 X hX⟩

/-- `inv(A)` for every square argument form (dense of any layout, `SymmMatrix` of either orientation,
    expression): the returned matrix `R` satisfies `A·R = 1` and `R·A = 1`. -/
theorem C16_inv_left_right (hL : Contract L) (h : Heap α) (A : MatArg α) (hwf : A.WF)
    (hsq : A.mat.rows = A.mat.cols) (R : InvRes α) (hR : (inv L h A).res = .ok R) :
    IsInverse A.mat.rows A.mat.get R.mat.get :=
  (inv_spec L hL h A hwf hsq).1 R hR

/-- The arguments are left unmodified: every entry point of the overload sets works on buffers it has allocated
    itself, so every buffer that existed before the call (the operands' storage included) is what it was — on
    the successful and on the raising paths, whatever LAPACK does (no contract needed) and whatever the operand
    shapes (no hypothesis on dimensions), the symmetric vector form with its second attempt included. -/
theorem C16_args_unmodified (h : Heap α) (A : MatArg α) :
    (∀ b : VecArg α, h.Extends (solveVec L h A b).heap) ∧
    (∀ B : MatArg α, h.Extends (solveMat L h A B).heap) ∧
    h.Extends (inv L h A).heap :=
  ⟨solveVec_cases L (motive := fun _ _ o => h.Extends o.heap) h (solveGenVec_extends L h) (solveSymVec_extends L h)
      (fun A b => (densify_extends h A.mat).trans ((densifyVec_extends _ b.vec).trans (solveGenVec_extends L _ _ _))) A,
    solveMat_cases L (motive := fun _ _ o => h.Extends o.heap) h (solveGenMat_extends L h) (solveSymMat_extends L h)
      (fun s b => (densify_extends h b.toMat).trans (solveSymMat_extends L _ s _))
      (fun A B => (densify_extends h A.mat).trans ((densify_extends _ B.mat).trans (solveGenMat_extends L _ _ _))) A,
    match A with
    | .dense m => invGen_extends L h m
    | .symm s => invSym_extends L h s
    | .expr m => (densify_extends h m).trans (invGen_extends L _ _)⟩

/-- An exactly singular matrix raises `matrix_ill_conditioned`: every form of `solve` (the symmetric vector
    form included: with fix F-21 its second attempt sees the original, singular matrix) and of `inv`. -/
theorem C16_singular_raises (hL : Contract L) (h : Heap α) (A : MatArg α) (hwf : A.WF)
    (hsq : A.mat.rows = A.mat.cols) (hs : Singular A.mat.rows A.mat.get) :
    (∀ b : VecArg α, b.vec.n = A.mat.rows → (solveVec L h A b).res = .error .matrix_ill_conditioned) ∧
    (∀ B : MatArg α, B.mat.rows = A.mat.rows → (solveMat L h A B).res = .error .matrix_ill_conditioned) ∧
    (inv L h A).res = .error .matrix_ill_conditioned :=
  ⟨fun b hb => (solveVec_spec L hL h A b hwf hsq hb).2.1 hs,
   fun B hb => (solveMat_spec L hL h A B hwf hsq hb).2.1 hs,
   (inv_spec L hL h A hwf hsq).2.1 hs⟩

/-- Conversely a non-singular system is never refused: a value is returned (and by the theorems above it is
    the solution / the inverse). -/
theorem C16_regular_returns (hL : Contract L) (h : Heap α) (A : MatArg α) (hwf : A.WF)
    (hsq : A.mat.rows = A.mat.cols) (hs : ¬ Singular A.mat.rows A.mat.get) :
    (∀ b : VecArg α, b.vec.n = A.mat.rows → ∃ x, (solveVec L h A b).res = .ok x) ∧
    (∀ B : MatArg α, B.mat.rows = A.mat.rows → ∃ X, (solveMat L h A B).res = .ok X) ∧
    (∃ R, (inv L h A).res = .ok R) :=
  ⟨fun b hb => (solveVec_spec L hL h A b hwf hsq hb).2.2.1 hs,
   fun B hb => (solveMat_spec L hL h A B hwf hsq hb).2.2.1 hs,
   (inv_spec L hL h A hwf hsq).2.2.1 hs⟩

/-- Asking for the inverse of a non-square matrix raises `invalid_operation`, before any LAPACK routine is
    called (no contract needed), and nothing that existed is written. -/
theorem C16_nonsquare_inv_raises (h : Heap α) (A : MatArg α) (hns : A.mat.rows ≠ A.mat.cols) :
    (inv L h A).res = .error .invalid_operation ∧ (inv L h A).log = [] ∧ h.Extends (inv L h A).heap := by
  cases A with
  | dense m =>
    simp only [inv, mapRes, invGen_nonsquare L h m hns]
    exact ⟨trivial, trivial, Heap.Extends.refl h⟩
  | symm s => exact absurd s.toMat_square hns
  | expr m =>
    simp only [inv, mapRes, invGen_nonsquare L (densify h m).1 (densify h m).2 hns]
    exact ⟨trivial, trivial, densify_extends h m⟩

/-- Row-major, column-major, `.T()`, strided and sub-block views are all `Mat.ofView`s (element `(i,j)` at
    `off + i·s0 + j·s1` of the owning buffer), so the theorems above, which hold for every `Mat`, hold for each
    of them; likewise `Vec.ofView`. -/
theorem C16_views_are_operands (rows cols off s0 s1 : Nat) (buf : Buf α) (i j : Nat) :
    (Mat.ofView rows cols off s0 s1 buf).get i j = buf (off + i * s0 + j * s1) ∧
    (Vec.ofView rows off s0 buf).get i = buf (off + i * s0) := ⟨rfl, rfl⟩

/-- The contract every theorem above assumes has a model over every field (Mathlib's nonsingular inverse), and
    its notion of exact singularity — a non-zero kernel vector — is `det = 0`. -/
theorem C16_contract_satisfiable (K : Type) [Field K] :
    (∃ L : Impl K, Contract L) ∧ ∀ (n : Nat) (M : Nat → Nat → K), Singular n M ↔ (toM n n M).det = 0 :=
  ⟨⟨classicalImpl K, classicalImpl_contract K⟩, singular_iff_det⟩

/-- a regular instance: `[[2,1],[1,3]]` as a row-major view, `b = (3,5)`, over `ℚ` with a contract-abiding
    LAPACK: a value is returned and it satisfies both equations; nothing that existed is touched -/
example : ∃ x : Vec ℚ,
    (solveVec (classicalImpl ℚ) ⟨1, fun _ k => [2, 1, 1, 3].getD k 0⟩
      (.dense (Mat.ofView 2 2 0 2 1 (fun k => [2, 1, 1, 3].getD k 0)))
      (.obj (Vec.ofView 2 0 1 (fun k => [3, 5].getD k 0)))).res = .ok x ∧
    2 * x.get 0 + x.get 1 = 3 ∧ x.get 0 + 3 * x.get 1 = 5 := by
  have hreg : ¬ Singular 2 (Mat.ofView 2 2 0 2 1 (fun k => ([2, 1, 1, 3] : List ℚ).getD k 0)).get := by
    rw [singular_iff_det, Matrix.det_fin_two]
    show ¬ ((2 : ℚ) * 3 - 1 * 1 = 0)
    norm_num
  obtain ⟨x, hx⟩ := (C16_regular_returns (classicalImpl ℚ) (classicalImpl_contract ℚ)
    ⟨1, fun _ k => [2, 1, 1, 3].getD k 0⟩ (.dense (Mat.ofView 2 2 0 2 1 (fun k => [2, 1, 1, 3].getD k 0)))
    trivial rfl hreg).1 (.obj (Vec.ofView 2 0 1 (fun k => [3, 5].getD k 0))) rfl
  have hs := (C16_solve_general (classicalImpl ℚ) (classicalImpl_contract ℚ) _ _ _ rfl rfl x hx).2
  have e0 : 0 + 2 * x.get 0 + 1 * x.get 1 = 3 := hs 0 Nat.two_pos
  have e1 : 0 + 1 * x.get 0 + 3 * x.get 1 = 5 := hs 1 Nat.one_lt_two
  rw [zero_add, one_mul] at e0 e1
  exact ⟨x, hx, e0, e1⟩

/-- a singular instance: `[[1,1],[1,1]]` as a `ROW_LOWER_COL_UPPER` `SymmMatrix` whose unused element is junk
    (777): symmetric, exactly singular, and every form raises `matrix_ill_conditioned` -/
example : (solveVec (classicalImpl ℚ) ⟨0, fun _ _ => 0⟩
      (.symm (Sym.ofStorage .rowLower 2 0 2 (fun k => [1, 777, 1, 1].getD k 0)))
      (.obj ⟨2, fun k => [1, 2].getD k 0⟩)).res = .error .matrix_ill_conditioned :=
  (C16_singular_raises (classicalImpl ℚ) (classicalImpl_contract ℚ) ⟨0, fun _ _ => 0⟩
    (.symm (Sym.ofStorage .rowLower 2 0 2 (fun k => [1, 777, 1, 1].getD k 0)))
    (Sym.ofStorage_symm _ _ _ _ _) rfl singular_ones).1 (.obj ⟨2, fun k => [1, 2].getD k 0⟩) rfl

end Adept.Solve
