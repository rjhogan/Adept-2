import AdeptProofs.Lemmas.Views
import AdeptProofs.Lemmas.ViewsElem
import AdeptProofs.Lemmas.IndexedViews
/-!
# C06 — views address exactly the elements their index expressions denote

Property theorems only; helper lemmas live in `AdeptProofs/Lemmas/Views.lean`, `ViewsElem.lean`, `IndexedViews.lean`.
All statements are about `AdeptModel/Views.lean`, the transcription of `Array::operator()` (scalar,
`range`, `stride`, `__`, `end` arithmetic), `subset`, `operator[]`, `T`, `permute`, `diag_vector`,
`submatrix_on_diagonal`, `reshape`, `soft_link` and `is_contiguous`; the correspondence check
(checks/c06.py) ties that model to the C++ on every run, in the default and in the
`-DADEPT_BOUNDS_CHECKING` build.  The section `C06_indexed_*` is about integer-vector indexing
(`AdeptModel/IndexedViews.lean`, the transcription of `IndexedArray.h`): `A(idx)`, `M(rows,1)`,
`M(__,cols)`, `A(1,end,idx)`, `A(idx1,range(…),idx2)`, … whose result is an expression that translates
coordinates on every access instead of a (base, dims, strides) view.

A view is `(base, dims, strides)`; `addr v ix = base + Σ ixₖ·stridesₖ` is the offset of element `ix`
from the start of the parent allocation.  A view has no data of its own, so "reads the parent's
current values and writes through to exactly those cells" is the statement that the *address* of every
element of the derived view is the address of the parent element the index expression denotes
(`C06_…_addr`), that this parent element exists (`C06_within_parent`) and hence lies inside the
parent allocation (`C06_within_allocation`).  Ranks, extents, strides and arguments are arbitrary
(lists of any length), `checked` selects the build.

Extents.  Every member but `T` builds its result with one of the two view constructors of `Array`, which (F-76)
set ALL dimensions to zero as soon as one of them is zero (`canonDims`, the convention of `Array::resize` for
arrays without elements): the extents of a view are the per-dimension counts, or all zero when one of them is
zero.  Then `empty()` (which tests dimension 0 only) is true exactly when the view has no element, so none of the
library's loops over "all elements" is entered for a selection that denotes nothing (`C06_empty_view_canonical`,
`C06_nonempty_unchanged`, `C06_reachable_canonical`, `C06_isEmpty_iff_no_element`).  The address theorems are
unaffected: `data_` and the offsets are stored as computed.
-/
namespace Adept.Views

/-! ## one address theorem per operation -/

/-- `A(i0,…)` with scalar / `range` / `stride` / `__` arguments, `end` resolved against each
    dimension: element `ix` of the result is the parent element `expandSlice …` (scalar arguments
    fixed, `b + i·s` in ranged dimensions).  Holds in both builds for every successful call, even
    for arguments the unchecked build should not have been given. -/
theorem C06_slice_addr {v w : View} {args : List Ix} {checked : Bool} (h : slice v args checked = .ok w) :
    w.WF ∧ ∀ ix : List Int, ix.length = w.dims.length →
      (expandSlice v.dims args ix).length = v.dims.length ∧
      addr w ix = addr v (expandSlice v.dims args ix) := by
  rw [slice_eq] at h
  obtain ⟨u, hu, rfl⟩ := construct_ok h
  exact ⟨(sliceRaw_viewOf hu).canon.wf, (sliceRaw_viewOf hu).canon.addr_eq⟩

/-- rank of `A(i0,…)`: one dimension per ranged argument (scalar-indexed dimensions are dropped),
    and there must be one argument per dimension -/
theorem C06_slice_rank {v w : View} {args : List Ix} {checked : Bool} (h : slice v args checked = .ok w) :
    w.dims.length = rangedCount args ∧ args.length = v.dims.length := by
  rw [slice_eq] at h
  obtain ⟨u, hu, rfl⟩ := construct_ok h
  obtain ⟨inc, hg, _⟩ := sliceRaw_ok hu
  obtain ⟨h1, h2, _⟩ := sliceGo_ok checked _ _ _ hg
  exact ⟨(canonDims_length _).trans h2, h1⟩

/-- extent of a ranged dimension: the C++ formula `(end + stride - begin)/stride` (truncating), which
    for a direction-consistent range is the documented count `⌊|e-b|/|s|⌋ + 1`, is maximal (one more
    step passes `e`), and is never positive for an inconsistent direction -/
theorem C06_range_extent {checked : Bool} {len : Nat} {off : Int} {b e : EndExpr} {s inc o : Int} {n : Nat}
    (h : updateRange checked len off b e s = .ok (inc, n, o)) :
    (n : Int) = (e.resolve len + s - b.resolve len).tdiv s ∧ o = s * off ∧ inc = b.resolve len * off ∧
    (0 < s → b.resolve len ≤ e.resolve len →
        (n : Int) = (e.resolve len - b.resolve len) / s + 1 ∧ e.resolve len < b.resolve len + n * s) ∧
    (s < 0 → e.resolve len ≤ b.resolve len →
        (n : Int) = (b.resolve len - e.resolve len) / (-s) + 1 ∧ b.resolve len + n * s < e.resolve len) ∧
    ((0 < s ∧ e.resolve len < b.resolve len) ∨ (s < 0 ∧ b.resolve len < e.resolve len) → n = 0) := by
  obtain ⟨h1, h2, _, h4, _⟩ := updateRange_ok h
  refine ⟨h4, h2, h1, ?_, ?_, ?_⟩
  · intro hs hbe
    exact ⟨by rw [h4, extent_documented_pos hs hbe], by rw [h4]; exact extent_maximal_pos hs hbe⟩
  · intro hs hbe
    exact ⟨by rw [h4, extent_documented_neg hs hbe], by rw [h4]; exact extent_maximal_neg hs hbe⟩
  · intro hd
    have := extent_inconsistent hd
    omega

/-- `A.subset(b0,e0,b1,e1,…)` addresses `A(range(b0,e0),range(b1,e1),…)` -/
theorem C06_subset_addr {v w : View} {be : List (EndExpr × EndExpr)} {checked : Bool}
    (h : subset v be checked = .ok w) :
    w.WF ∧ w.dims.length = v.dims.length ∧ ∀ ix : List Int, ix.length = w.dims.length →
      addr w ix = addr v (expandSlice v.dims (be.map fun p => Ix.range p.1 p.2) ix) := by
  obtain ⟨h1, h2⟩ := C06_slice_addr h
  obtain ⟨h3, h4⟩ := C06_slice_rank h
  refine ⟨h1, ?_, fun ix hix => (h2 ix hix).2⟩
  rw [h3, ← h4]
  clear h h1 h2 h3 h4
  induction be with
  | nil => rfl
  | cons p ps ih => simp [rangedCount, ih]

/-- `A[i]`: the rest of the dimensions (all zero if one of them is zero), at leading index `i` -/
theorem C06_sub1_addr {v w : View} {e : EndExpr} {checked : Bool} (hwf : v.WF) (h : sub1 v e checked = .ok w) :
    w.WF ∧ w.dims = canonDims v.dims.tail ∧ ∀ ix : List Int, ix.length = w.dims.length →
      addr w ix = addr v (e.resolve (v.dims.headD 0) :: ix) := by
  rw [sub1_eq] at h
  obtain ⟨u, hu, rfl⟩ := construct_ok h
  have r := (sub1Raw_viewOf hwf hu).canon
  obtain ⟨d, ds, s, ss, hd, _, rfl, _⟩ := sub1Raw_ok hu
  exact ⟨r.wf, by simp [View.canon, hd], fun ix hix => (r.addr_eq ix hix).2⟩

/-- `A.T()`: element `(i,j)` is parent element `(j,i)`; extents swapped -/
theorem C06_T_addr {v w : View} (h : transpose v = .ok w) :
    w.WF ∧ w.dims = v.dims.reverse ∧ ∀ i j : Int, addr w [i, j] = addr v [j, i] := by
  have r := transpose_viewOf h
  obtain ⟨d0, d1, s0, s1, hd, _, rfl⟩ := transpose_ok h
  exact ⟨r.wf, by simp [hd], fun i j => (r.addr_eq [i, j] rfl).2⟩

/-- `A.permute(p)`: new dimension `i` is old dimension `p i` (extent and offset), so element `ix` is the
    parent element whose coordinate `p i` is `ix i` (`expandPermute`); no extent is zero (`permute` rejects an
    array with a zero extent: `empty_array` / `invalid_dimension`) -/
theorem C06_permute_addr {v w : View} {p : List Int} (h : permute v p = .ok w) :
    w.WF ∧ w.dims = p.map (fun x => v.dims.getD x.toNat 0) ∧ (∀ d ∈ w.dims, d ≠ 0) ∧
    ∀ ix : List Int, ix.length = w.dims.length → addr w ix = addr v (expandPermute v.dims.length p ix) := by
  rw [permute_eq] at h
  obtain ⟨u, hu, rfl⟩ := construct_ok h
  have r := (permuteRaw_viewOf hu).canon
  obtain ⟨_, _, rfl, _, hpos⟩ := permuteRaw_ok hu
  have hc : canonDims (p.map fun x => v.dims.getD x.toNat 0) = p.map fun x => v.dims.getD x.toNat 0 :=
    canonDims_of_pos hpos
  exact ⟨r.wf, hc, fun d hd => hpos d (hc ▸ hd), fun ix hix => (r.addr_eq ix hix).2⟩

/-- `A.diag_vector(k)` of an `n × n` matrix: extent `n - |k|`, element `i` is `A(i, i+k)` for `k ≥ 0`
    and `A(i-k, i)` for `k < 0` -/
theorem C06_diag_addr {v w : View} {k : Int} {n : Nat} {s0 s1 : Int} (hd : v.dims = [n, n]) (hs : v.strides = [s0, s1])
    (hn : 0 < n) (h : diagVector v k = .ok w) :
    w.dims = [((n : Int) - k.natAbs).toNat] ∧ w.strides = [s0 + s1] ∧ (k.natAbs : Int) ≤ n ∧
    ∀ i : Int, addr w [i] = addr v (if k ≥ 0 then [i, i + k] else [i - k, i]) := by
  rw [diagVector_eq] at h
  obtain ⟨u, hu, rfl⟩ := construct_ok h
  obtain ⟨d0, d1, t0, t1, m, hd', hs', rfl, hm⟩ := diagRaw_ok hu
  have haddr := (diagRaw_viewOf hu).addr_eq
  cases hd.symm.trans hd'
  cases hs.symm.trans hs'
  have hm' : (m : Int) + k.natAbs = n := hm.elim (fun h0 => absurd h0.1 (Nat.ne_of_gt hn)) (·.2.2)
  have key : ∀ a : Int, (m : Int) + a = n → [m] = [((n : Int) - a).toNat] ∧ a ≤ n :=
    fun a ha => ⟨congrArg (· :: []) (by omega), by omega⟩
  exact ⟨(canonDims_singleton m).trans (key _ hm').1, rfl, (key _ hm').2, fun i => (haddr [i] rfl).2⟩

/-- `A.submatrix_on_diagonal(b,e)`: the `(e-b+1) × (e-b+1)` block `A(range(b,e),range(b,e))`;
    the arguments are range-checked in both builds -/
theorem C06_subdiag_addr {v w : View} {b e : Int} (h : submatrixOnDiagonal v b e = .ok w) :
    w.WF ∧ w.dims = [(e - b + 1).toNat, (e - b + 1).toNat] ∧ w.strides = v.strides ∧
    (∃ d : Nat, v.dims = [d, d] ∧ 0 ≤ b ∧ b ≤ e ∧ e < d) ∧
    ∀ i j : Int, addr w [i, j] = addr v [i + b, j + b] := by
  rw [submatrixOnDiagonal_eq] at h
  obtain ⟨u, hu, rfl⟩ := construct_ok h
  have r := (subdiagRaw_viewOf hu).canon
  obtain ⟨d, s0, s1, hd, hs, h3, h4, h5, rfl⟩ := subdiagRaw_ok hu
  have hc : canonDims [(e - b + 1).toNat, (e - b + 1).toNat] = [(e - b + 1).toNat, (e - b + 1).toNat] :=
    canonDims_of_pos (by intro x hx; simp at hx; omega)
  exact ⟨r.wf, hc, hs.symm, ⟨d, hd, h3, h4, h5⟩, fun i j => (r.addr_eq [i, j] (congrArg List.length hc).symm).2⟩

/-- `v.reshape(dims)` of a rank-1 view with any stride: extents `dims` (all zero if one of them is zero, i.e.
    when an empty vector is reshaped), element `ix` is vector element number `lin dims ix` (row-major position) -/
theorem C06_reshape_addr {v w : View} {nd : List Int} (h : reshape v nd = .ok w) :
    w.WF ∧ w.dims = canonDims (nd.map Int.toNat) ∧ (∃ d0 : Nat, v.dims = [d0] ∧ prodInt nd = d0) ∧
    ∀ ix : List Int, ix.length = w.dims.length → addr w ix = addr v [lin (nd.map Int.toNat) ix] := by
  rw [reshape_eq] at h
  obtain ⟨u, hu, rfl⟩ := construct_ok h
  have r := (reshapeRaw_viewOf hu).canon
  obtain ⟨d0, s0, hd, _, _, hp, _, rfl⟩ := reshapeRaw_ok hu
  exact ⟨r.wf, rfl, ⟨d0, hd, hp⟩, fun ix hix => (r.addr_eq ix hix).2⟩

/-- `A.soft_link()` is the same view: same `data_`, same offsets, the same extents for every array the library can
    hand out (its extents are canonical already, `C06_reachable_canonical`); it is built by the second view
    constructor, so in general the extents are the canonical ones -/
theorem C06_softlink_addr {v w : View} (h : softLink v = .ok w) :
    w = v.canon ∧ (v.dims = canonDims v.dims → w = v) := by
  simp only [softLink, construct] at h
  cases h
  refine ⟨rfl, fun hc => ?_⟩
  cases v with
  | mk b d s => simp only [View.canon] at hc ⊢; rw [← hc]

/-- by induction over a *list* of operations: the derived view addresses the parent through the
    composed index map `expandAll` (of the right rank), whatever the operations and their number -/
theorem C06_compose_addr (checked : Bool) (ops : List Op) (v w : View) (hwf : v.WF)
    (h : run checked v ops = .ok w) :
    w.WF ∧ ∀ ix : List Int, ix.length = w.dims.length →
      (expandAll checked v ops ix).length = v.dims.length ∧
      addr w ix = addr v (expandAll checked v ops ix) :=
  ⟨(run_viewOf checked ops v w hwf h).wf, (run_viewOf checked ops v w hwf h).addr_eq⟩

/-- every element of a derived view is an element of the view it was derived from: for every valid
    index `ix` of the result, the composed index is a *valid* index of the parent with the same
    address.  `RunAdm`: the unchecked build is given in-range scalar indices and range end points
    (the checked build needs no such assumption, see `C06_within_parent_checked`) and `permute` is
    given a permutation. -/
theorem C06_within_parent (checked : Bool) (ops : List Op) (v w : View) (hwf : v.WF)
    (h : run checked v ops = .ok w) (hadm : RunAdm checked v ops) :
    ∀ ix : List Int, InRange ix w.dims →
      InRange (expandAll checked v ops ix) v.dims ∧ addr w ix = addr v (expandAll checked v ops ix) :=
  fun ix hix => ⟨(run_viewOf checked ops v w hwf h).inRange hadm ix hix,
    ((run_viewOf checked ops v w hwf h).addr_eq ix (InRange_length hix)).2⟩

/-- hence reads and writes through the derived view touch cells of the parent view only -/
theorem C06_cells_subset (checked : Bool) (ops : List Op) (v w : View) (hwf : v.WF)
    (h : run checked v ops = .ok w) (hadm : RunAdm checked v ops) : ∀ a, cells w a → cells v a := by
  rintro a ⟨ix, hix, rfl⟩
  obtain ⟨h1, h2⟩ := C06_within_parent checked ops v w hwf h hadm ix hix
  exact ⟨_, h1, h2.symm⟩

/-- and, for a freshly allocated parent (row- or column-major), only cells `0 … volume-1` of the
    allocation -/
theorem C06_within_allocation (checked rowMajor : Bool) (dims : List Nat) (ops : List Op) (w : View)
    (h : run checked (fresh rowMajor dims) ops = .ok w) (hadm : RunAdm checked (fresh rowMajor dims) ops) :
    ∀ ix : List Int, InRange ix w.dims → 0 ≤ addr w ix ∧ addr w ix < prodInt (dims.map Int.ofNat) := by
  intro ix hix
  obtain ⟨h1, h2⟩ := C06_within_parent checked ops _ w (fresh_WF rowMajor dims) h hadm ix hix
  rw [h2]
  exact fresh_addr_bounds rowMajor dims _ h1

/-! ## views without elements (F-76)

`applyRaw` is what each member function computes and hands to the view constructor.  Without the constructors'
canonicalisation (fix F-76) that is the view returned: `T(__,range(2,1),__)` then has the extents `(2,0,4)`, is not
`empty()` (dimension 0 is 2) and the library's own loops (`= scalar`, `sum`, …) are entered for it.  `apply` is the
constructed view. -/

/-- ANY zero extent ⇒ ALL extents zero, `empty()` is true and the view denotes no element: it has no valid index and
    the enumeration of its elements is empty.  Holds for the result of every operation that builds its result with a
    view constructor (all but `T`) whatever the receiver, and for `T` of a receiver whose extents are canonical
    (every array the library hands out, `C06_reachable_canonical`). -/
theorem C06_empty_view_canonical {checked : Bool} {v w : View} {op : Op}
    (hop : op.constructs = true ∨ v.dims = canonDims v.dims)
    (h : apply checked v op = .ok w) (hz : 0 ∈ w.dims) :
    (∀ d ∈ w.dims, d = 0) ∧ w.isEmpty = true ∧ allIndices w.dims = [] ∧ ∀ ix : List Int, ¬ InRange ix w.dims := by
  have hc : w.Canonical := apply_canonical hop h
  exact ⟨canonical_all_zero hc hz, hc.isEmpty_iff.mpr hz, allIndices_of_zero hz, fun ix => not_inRange_of_zero hz⟩

/-- NO zero extent ⇒ exactly what the member function computed: the view constructor changes nothing (same `data_`, extents, offsets),
    in both directions, and errors are the same errors. -/
theorem C06_nonempty_unchanged (checked : Bool) (v : View) (op : Op) :
    (∀ u, applyRaw checked v op = .ok u → 0 ∉ u.dims → apply checked v op = .ok u) ∧
    (∀ w, apply checked v op = .ok w → 0 ∉ w.dims → applyRaw checked v op = .ok w) ∧
    (∀ e, applyRaw checked v op = .error e ↔ apply checked v op = .error e) := by
  refine ⟨?_, ?_, ?_⟩
  · intro u hu hz
    rw [apply_eq, hu]
    split
    · simp only [construct, canon_of_pos hz]
    · rfl
  · intro w hw hz
    obtain ⟨u, hu, rfl⟩ := apply_ok hw
    split at hz
    · rw [if_pos (by assumption), canon_of_pos fun h0 => hz (zero_mem_canonDims h0)]
      exact hu
    · rw [if_neg (by assumption)]
      exact hu
  · intro e
    rw [apply_eq]
    cases hr : applyRaw checked v op with
    | ok u => split <;> simp [construct]
    | error e' => split <;> simp [construct]

/-- every view reachable from a receiver with canonical extents (a freshly allocated array, a default-constructed
    one) by ANY list of operations has canonical extents -/
theorem C06_reachable_canonical (checked : Bool) (ops : List Op) (v w : View) (hv : v.dims = canonDims v.dims)
    (h : run checked v ops = .ok w) : w.dims = canonDims w.dims := by
  induction ops generalizing v with
  | nil =>
    cases h
    exact hv
  | cons op ops ih =>
    obtain ⟨u, hu, hr⟩ := run_cons_ok h
    exact ih u (apply_canonical (Or.inr hv) hu) hr

/-- so for every such view `empty()` — which tests dimension 0 only — is true EXACTLY when the view has no element:
    the guard of the library's whole-array loops is exact -/
theorem C06_isEmpty_iff_no_element (checked rowMajor : Bool) (dims : List Nat) (hd : ∀ d ∈ dims, d ≠ 0)
    (ops : List Op) (w : View) (h : run checked (fresh rowMajor dims) ops = .ok w) :
    (w.isEmpty = true ↔ allIndices w.dims = []) ∧ (w.isEmpty = true ↔ ¬ ∃ ix : List Int, InRange ix w.dims) := by
  have hc : w.Canonical := C06_reachable_canonical checked ops _ w (fresh_canonical rowMajor hd) h
  have key := hc.isEmpty_iff
  refine ⟨key.trans ⟨allIndices_of_zero, allIndices_eq_nil⟩, key.trans ⟨fun hz ⟨ix, hix⟩ => not_inRange_of_zero hz hix, ?_⟩⟩
  intro hno
  false_or_by_contra
  rename_i hz
  apply hno
  have hne : allIndices w.dims ≠ [] := fun he => hz (allIndices_eq_nil he)
  obtain ⟨ix, hix⟩ := List.exists_mem_of_ne_nil _ hne
  exact ⟨ix, allIndices_inRange _ _ hix⟩

/-- `-DADEPT_BOUNDS_CHECKING`: if a scalar index or a range end point (after resolving `end`) is
    outside `0 … n-1` in some argument, `operator()` returns no view; it throws `index_out_of_bounds`
    (given that the call compiles and that no argument has a zero stride or a negative extent, where
    the C++ divides by zero or builds a negative dimension before reaching the offending argument) -/
theorem C06_checked_rejects {v : View} {args : List Ix} (hwf : v.WF) (hlen : args.length = v.dims.length)
    (hoob : ¬ ArgsAdm v.dims args) :
    (∀ w, slice v args true ≠ .ok w) ∧
    (ArgsDefined v.dims args → slice v args true = .error .index_out_of_bounds) := by
  constructor
  · intro w hw
    rw [slice_eq] at hw
    obtain ⟨u, hu, rfl⟩ := construct_ok hw
    obtain ⟨inc, hg, _⟩ := sliceRaw_ok hu
    exact hoob ((sliceGo_ok true _ _ _ hg).2.2.2.1 rfl)
  · intro hdef
    unfold slice sliceRaw
    rw [sliceGo_checked_rejects v.dims v.strides args hwf hlen.symm hdef hoob]
    rfl

/-- the same for `operator[]` … -/
theorem C06_checked_rejects_sub1 {v : View} {e : EndExpr} {d : Nat} {ds : List Nat} {s : Int} {ss : List Int}
    (hd : v.dims = d :: ds) (hs : v.strides = s :: ss) (h : ¬ (0 ≤ e.resolve d ∧ e.resolve d < d)) :
    sub1 v e true = .error .index_out_of_bounds := by
  unfold sub1 sub1Raw
  rw [hd, hs]
  show construct (getIndexWithLen true e d >>= _) = _
  rw [getIndex_checked_oob h]
  rfl

/-- … and for `subset` -/
theorem C06_checked_rejects_subset {v : View} {be : List (EndExpr × EndExpr)} (hwf : v.WF)
    (hlen : be.length = v.dims.length) (hoob : ¬ ArgsAdm v.dims (be.map fun p => Ix.range p.1 p.2)) :
    ∀ w, subset v be true ≠ .ok w := by
  intro w
  rw [subset_eq]
  exact (C06_checked_rejects (args := be.map fun p => Ix.range p.1 p.2) hwf (by simpa using hlen) hoob).1 w

/-- conversely a view returned by the checked build had admissible arguments, and it is the view
    the default build returns -/
theorem C06_checked_accepts {v w : View} {args : List Ix} (h : slice v args true = .ok w) :
    ArgsAdm v.dims args ∧ slice v args false = .ok w := by
  rw [slice_eq] at h
  obtain ⟨u, hu, rfl⟩ := construct_ok h
  obtain ⟨⟨inc, nd, ns⟩, hg, hu⟩ := bind_ok hu
  cases hu
  refine ⟨(sliceGo_ok true _ _ _ hg).2.2.2.1 rfl, ?_⟩
  unfold slice sliceRaw
  rw [sliceGo_checked_imp _ _ _ hg]
  rfl

set_option linter.unusedVariables false in -- `hperm` is not used
/-- so in the checked build no assumption about index values is needed at all; nor is `hperm`, since both builds test that
    `permute` is given a permutation (`permuteRaw_ok`): the run itself is admissible (`runAdm_checked`) -/
theorem C06_within_parent_checked (ops : List Op) (v w : View) (hwf : v.WF) (h : run true v ops = .ok w)
    (hperm : ∀ (u : View) (p : List Int) (pre post : List Op), ops = pre ++ Op.permute p :: post →
       run true v pre = .ok u → IsPerm p u.dims.length) :
    ∀ ix : List Int, InRange ix w.dims →
      InRange (expandAll true v ops ix) v.dims ∧ addr w ix = addr v (expandAll true v ops ix) := by
  exact C06_within_parent true ops v w hwf h (runAdm_checked ops v w h)

/-- `is_contiguous()` with the loop counting down (F-08 repaired: the pinned loop `++i` reads
    `offset_[Rank]`) holds exactly for the packed row-major offsets of the view's own extents -/
theorem C06_is_contiguous_iff (v : View) (hwf : v.WF) :
    isContiguous v = true ↔ v.strides = packRowMajor v.dims := by
  unfold isContiguous
  rw [contigGo_iff _ _ _ (by simpa [View.WF] using hwf), ← packRowMajor_reverse]
  constructor
  · intro h
    simpa using congrArg List.reverse h
  · intro h
    rw [h]

/-! ## integer-vector indexing (`IndexedArray`)

`indexed v sels checked` is the constructor of the `IndexedArray` returned by `A(s0,s1,…)` when at least
one selector is an integer vector (`Sel.vec`, entries possibly written with `end`), the others being
scalar (`int` or `end-k`), `range`/`stride` or `__`.  `ixAddr checked iv ix` is the cell a read or a write
of element `ix` accesses (`translate_coords_` + `get_value_with_len_` + `set_location`), or the exception
raised instead; `ixRead` / `ixStores` are the whole statements `B = A(…)` and `A(…) = values`. -/

/-- for every in-range index `ix` of the result, the cell that is accessed is
    `addr parent (expandSel selectors ix)`: scalar selectors fixed, `b + s·i` in ranged dimensions, `i`
    under `__`, entry number `i` of an index vector, EVERY selector (in particular a scalar `end-k`
    after other scalar selectors) resolved against the extent of its own dimension; ranks, extents and
    selectors arbitrary.  In the default build the access is always made; in the checked build it is
    made only if it does not raise. -/
theorem C06_indexed_addr {v : View} {sels : List Sel} {checked : Bool} {iv : IView}
    (h : indexed v sels checked = .ok iv) :
    iv.parent = v ∧ iv.sels = sels ∧
    ∀ ix : List Int, InRange ix iv.dims →
      (expandSel v.dims sels ix).length = v.dims.length ∧
      (∀ a, ixAddr checked iv ix = .ok a → a = addr v (expandSel v.dims sels ix)) ∧
      (checked = false → ixAddr checked iv ix = .ok (addr v (expandSel v.dims sels ix))) := by
  obtain ⟨_, hd, rfl, rfl⟩ := indexed_ok h
  refine ⟨rfl, rfl, fun ix hix => ⟨expandSel_length checked _ _ _ _ hd (InRange_length hix),
    fun a ha => (ixAddr_ok_expand ha).1, ?_⟩⟩
  rintro rfl
  unfold ixAddr
  rw [translateCoords_unchecked _ _ _ _ hd hix]
  rfl

/-- rank and extents of `A(s0,s1,…)`: one selector per dimension of `A`; the rank is the number of
    non-scalar selectors; the extents are, in order, the number of entries of an index vector, the extent
    `(e + s - b)/s` of a range (the formula of `C06_range_extent`), the parent extent under `__` -/
theorem C06_indexed_extents {v : View} {sels : List Sel} {checked : Bool} {iv : IView}
    (h : indexed v sels checked = .ok iv) :
    sels.length = v.dims.length ∧ iv.dims.length = nonScalarCount sels ∧ iv.dims = selExtents v.dims sels := by
  obtain ⟨_, hd, _, _⟩ := indexed_ok h
  obtain ⟨h1, h2, h3⟩ := ixDims_ok checked _ _ _ hd
  exact ⟨h3, h2, h1⟩

/-- admissible selectors (`SelsAdm`: scalar indices, range end points and every index-vector entry, after
    resolving `end`, lie in `0 … n-1` of their dimension): in both builds every element of the result is
    accessed without exception and is an element of the parent — the composed index is a valid parent
    index, so the cell is a parent cell -/
theorem C06_indexed_within_parent {v : View} {sels : List Sel} {checked : Bool} {iv : IView}
    (h : indexed v sels checked = .ok iv) (hadm : SelsAdm v.dims sels) :
    ∀ ix : List Int, InRange ix iv.dims →
      InRange (expandSel v.dims sels ix) v.dims ∧
      ixAddr checked iv ix = .ok (addr v (expandSel v.dims sels ix)) ∧
      cells v (addr v (expandSel v.dims sels ix)) := by
  obtain ⟨_, hd, rfl, rfl⟩ := indexed_ok h
  intro ix hix
  obtain ⟨h1, h2⟩ := translateCoords_adm checked _ _ _ _ hadm hd hix
  refine ⟨h2, ?_, ⟨_, h2, rfl⟩⟩
  unfold ixAddr
  rw [h1]
  rfl

/-- hence, for admissible selectors, `B = A(s0,…)` reads exactly the denoted parent cells in index order
    and `A(s0,…) = values` stores value number `k` to the cell of element number `k`, for every element,
    and nothing else, raising nothing (both builds; nothing at all is accessed when an extent is 0) -/
theorem C06_indexed_read_write {v : View} {sels : List Sel} {checked : Bool} {iv : IView}
    (h : indexed v sels checked = .ok iv) (hadm : SelsAdm v.dims sels) (hne : iv.isEmpty = false) :
    ixRead checked iv = .ok ((allIndices iv.dims).map fun ix => addr v (expandSel v.dims sels ix)) ∧
    ∀ vals : List Int, vals.length = (allIndices iv.dims).length →
      ixStores checked iv vals =
        (((allIndices iv.dims).map fun ix => addr v (expandSel v.dims sels ix)).zip vals, none) := by
  have hall : ∀ ix ∈ allIndices iv.dims, ixAddr checked iv ix = .ok (addr v (expandSel v.dims sels ix)) :=
    fun ix hix => (C06_indexed_within_parent h hadm ix (allIndices_inRange _ _ hix)).2.1
  constructor
  · unfold ixRead
    rw [hne]
    exact mapM_ok_of_forall _ _ _ hall
  · intro vals hl
    unfold ixStores
    rw [hne]
    exact storesGo_total checked iv _ _ _ hall hl

/-- write-through to exactly those cells: after the stores of an assignment, a cell that is not the cell
    of some element keeps its value, and a cell of the selection holds a value that was assigned to an
    element denoting it -/
theorem C06_indexed_write_through {v : View} {sels : List Sel} {checked : Bool} {iv : IView}
    (h : indexed v sels checked = .ok iv) (hadm : SelsAdm v.dims sels) (hne : iv.isEmpty = false)
    (vals : List Int) (hl : vals.length = (allIndices iv.dims).length) (mem : Int → Int) (a : Int) :
    let cellsOf := (allIndices iv.dims).map fun ix => addr v (expandSel v.dims sels ix)
    let after := applyStores mem (ixStores checked iv vals).1
    (a ∉ cellsOf → after a = mem a) ∧
    (a ∈ cellsOf → ∃ p ∈ cellsOf.zip vals, p.1 = a ∧ after a = p.2) := by
  intro cellsOf after
  have hst : (ixStores checked iv vals).1 = cellsOf.zip vals := by
    rw [(C06_indexed_read_write h hadm hne).2 vals hl]
  constructor
  · intro hna
    show applyStores mem (ixStores checked iv vals).1 a = mem a
    rw [hst]
    apply applyStores_other
    intro p hp hpa
    exact hna (hpa ▸ (List.of_mem_zip hp).1)
  · intro ha
    show ∃ p ∈ cellsOf.zip vals, p.1 = a ∧ applyStores mem (ixStores checked iv vals).1 a = p.2
    rw [hst]
    apply applyStores_mem
    obtain ⟨k, hk, rfl⟩ := List.mem_iff_getElem.mp ha
    have hk' : k < vals.length := by
      rw [hl]
      simpa [cellsOf] using hk
    exact ⟨(cellsOf[k], vals[k]), by
      rw [List.mem_iff_getElem]
      exact ⟨k, by rw [List.length_zip]; exact Nat.lt_min.mpr ⟨hk, hk'⟩, by simp⟩, rfl⟩

/-- `-DADEPT_BOUNDS_CHECKING`: an element whose composed parent index is not valid — because an
    index-vector ENTRY, a scalar index or a range value is outside `0 … n-1` of its dimension — is not
    accessed: `index_out_of_bounds` is raised instead; conversely every access that is made goes to a
    parent cell, so whatever the selectors hold no statement reads or writes outside the parent view.
    If some scalar index or index-vector entry is inadmissible and no extent is 0, the whole read
    `B = A(…)` and every assignment `A(…) = values` raise `index_out_of_bounds`. -/
theorem C06_indexed_checked_rejects {v : View} {sels : List Sel} {iv : IView}
    (h : indexed v sels true = .ok iv) :
    (∀ ix : List Int, InRange ix iv.dims → ¬ InRange (expandSel v.dims sels ix) v.dims →
        ixAddr true iv ix = .error .index_out_of_bounds) ∧
    (∀ ix : List Int, InRange ix iv.dims → ∀ a, ixAddr true iv ix = .ok a → cells v a) ∧
    (∀ vals : List Int, ∀ p ∈ (ixStores true iv vals).1, cells v p.1) ∧
    (¬ SelsAdm v.dims sels → iv.isEmpty = false →
        ixRead true iv = .error .index_out_of_bounds ∧
        ∀ vals : List Int, (allIndices iv.dims).length ≤ vals.length →
          (ixStores true iv vals).2 = some .index_out_of_bounds) := by
  obtain ⟨_, hd, rfl, rfl⟩ := indexed_ok h
  have hok : ∀ (ix : List Int) (a : Int), ixAddr true iv ix = .ok a → cells iv.parent a :=
    fun ix a ha => ⟨_, (ixAddr_ok_expand ha).2 rfl, (ixAddr_ok_expand ha).1.symm⟩
  have herr : ∀ ix : List Int, InRange ix iv.dims → ∀ e, ixAddr true iv ix = .error e → e = .index_out_of_bounds :=
    fun ix hix e he => (translateCoords_err true _ _ _ _ _ hd hix (ixAddr_err he)).2
  have hrej : ∀ ix : List Int, InRange ix iv.dims → ¬ InRange (expandSel iv.parent.dims iv.sels ix) iv.parent.dims →
      ixAddr true iv ix = .error .index_out_of_bounds := by
    intro ix hix hbad
    cases ha : ixAddr true iv ix with
    | ok a => exact absurd ((ixAddr_ok_expand ha).2 rfl) hbad
    | error e => rw [herr ix hix e ha]
  refine ⟨hrej, fun ix _ => hok ix, ?_, ?_⟩
  · intro vals p hp'
    unfold ixStores at hp'
    split at hp'
    · cases hp'
    · obtain ⟨ix, hix, ha⟩ := storesGo_mem true iv _ _ _ _ rfl p hp'
      exact hok ix _ ha
  · intro hadm hne
    obtain ⟨ix, hix, hbad⟩ := exists_oob_index _ _ _ hd (isEmpty_false hne) hadm
    have hex : ∃ ix ∈ allIndices iv.dims, ∃ e, ixAddr true iv ix = .error e :=
      ⟨ix, allIndices_complete _ _ hix, _, hrej ix hix hbad⟩
    have hall : ∀ ix ∈ allIndices iv.dims, ∀ e, ixAddr true iv ix = .error e → e = .index_out_of_bounds :=
      fun ix hix e he => herr ix (allIndices_inRange _ _ hix) e he
    constructor
    · unfold ixRead
      rw [hne]
      exact mapM_err_of_exists _ _ _ hex hall
    · intro vals hl
      unfold ixStores
      rw [hne]
      exact storesGo_err true iv _ _ _ hex hall hl

/-! ## `end` arithmetic and integer-vector expressions in index position

An index, a range end point or a stride may be any rank-0 integer expression built from `end`, and an index
vector any rank-1 integer expression: `k-end`, `end/2`, `k/end`, `2*end`, `(end-1)/2`, `(n-1)-idx`, `idx+1`, … .
The C++ evaluates them with `value_with_len_(j, len)` of the three classes of BinaryOperation.h
(`BinaryOpScalarLeft`, `BinaryOpScalarRight`, `BinaryOperation`) and of `EndIndex`; `EndExpr.resolve` /
`VExpr.valueWithLen` transcribe these.  All the address, extent, containment and rejection theorems above are
stated for ARBITRARY `EndExpr` arguments, hence hold for every such form; the theorems below state what the forms
evaluate to.  (The transcription is tied to the C++ by the correspondence runs: every compiled shape × role ×
position on every run, see checks/c06.py.) -/

/-- every form evaluates to "`end` is the last index `len-1`, then ordinary integer arithmetic with the operands in
    the order written and C++ truncating division": `end`; `end-k`; scalar on the LEFT `k OP e`
    (`BinaryOpScalarLeft`: `operation(left, right.value_with_len)`); scalar on the right `e OP k`
    (`BinaryOpScalarRight`); two expressions (`BinaryOperation`); the six operations -/
theorem C06_endexpr_forms (len : Nat) (k : Int) (e e₁ e₂ : EndExpr) (op : BinOp) :
    EndExpr.last.resolve len = (len : Int) - 1 ∧
    (EndExpr.fromEnd k).resolve len = (EndExpr.bin .sub .last (.lit k)).resolve len ∧
    (EndExpr.bin op (.lit k) e).resolve len = op.eval k (e.resolve len) ∧
    (EndExpr.bin op e (.lit k)).resolve len = op.eval (e.resolve len) k ∧
    (EndExpr.bin op e₁ e₂).resolve len = op.eval (e₁.resolve len) (e₂.resolve len) ∧
    (∀ a b : Int, BinOp.add.eval a b = a + b ∧ BinOp.sub.eval a b = a - b ∧ BinOp.mul.eval a b = a * b ∧
      BinOp.div.eval a b = a.tdiv b ∧ BinOp.max.eval a b = max a b ∧ BinOp.min.eval a b = min a b) := by
  refine ⟨rfl, rfl, rfl, rfl, rfl, fun a b => ⟨rfl, rfl, rfl, rfl, ?_, ?_⟩⟩
  · show (if a < b then b else a) = max a b
    omega
  · show (if a < b then a else b) = min a b
    omega

/-- the operand order matters for `-` and `/`: `k - end` is `k - (len-1)`, the NEGATIVE of `end - k`, and the two
    agree only when `k` is the last index itself; `k / end` for `0 ≤ k < end` is `0` whereas `end / k` is at least
    `1` (so an evaluator that swaps the operands of the scalar-left class is wrong exactly for `-` and `/`, while
    `+`, `*`, `max`, `min` do not depend on the order) -/
theorem C06_endexpr_operand_order (len : Nat) (k : Int) :
    (EndExpr.bin .sub (.lit k) .last).resolve len = k - ((len : Int) - 1) ∧
    (EndExpr.bin .sub (.lit k) .last).resolve len = - (EndExpr.bin .sub .last (.lit k)).resolve len ∧
    ((EndExpr.bin .sub (.lit k) .last).resolve len = (EndExpr.bin .sub .last (.lit k)).resolve len ↔ k = (len : Int) - 1) ∧
    (0 < k → k < (len : Int) - 1 →
      (EndExpr.bin .div (.lit k) .last).resolve len = 0 ∧ 1 ≤ (EndExpr.bin .div .last (.lit k)).resolve len) ∧
    (∀ (op : BinOp) (a b : Int), op = .add ∨ op = .mul ∨ op = .max ∨ op = .min → op.eval a b = op.eval b a) := by
  refine ⟨rfl, ?_, ?_, ?_, ?_⟩
  · show k - ((len : Int) - 1) = -((len : Int) - 1 - k)
    omega
  · show k - ((len : Int) - 1) = (len : Int) - 1 - k ↔ k = (len : Int) - 1
    omega
  · intro h0 h1
    show k.tdiv ((len : Int) - 1) = 0 ∧ 1 ≤ ((len : Int) - 1).tdiv k
    refine ⟨Int.tdiv_eq_zero_of_lt (Int.le_of_lt h0) h1, ?_⟩
    have h3 : k.tdiv k ≤ ((len : Int) - 1).tdiv k := Int.tdiv_le_tdiv h0 (Int.le_of_lt h1)
    rwa [Int.tdiv_self (Int.ne_of_gt h0)] at h3
  · intro op a b h
    rcases h with rfl | rfl | rfl | rfl
    · exact Int.add_comm a b
    · exact Int.mul_comm a b
    · show (if a < b then b else a) = if b < a then a else b
      omega
    · show (if a < b then a else b) = if b < a then b else a
      omega

/-- the reversal idiom `v((n-1) - idx)` (scalar on the left of an index vector): entry `x` of `idx` denotes
    element `n-1-x`; for `0 ≤ x < n` this is a valid index, the map is an involution, and on a dimension of length
    `n` it is the same element as `end - idx` -/
theorem C06_endexpr_reversal (n : Nat) (x : Int) (len : Nat) :
    let rev : VExpr := .bin .sub (.lit ((n : Int) - 1)) .idx
    (rev.at x).resolve len = (n : Int) - 1 - x ∧
    (0 ≤ x ∧ x < n → 0 ≤ (rev.at x).resolve len ∧ (rev.at x).resolve len < n) ∧
    (rev.at ((rev.at x).resolve len)).resolve len = x ∧
    (rev.at x).resolve n = ((VExpr.bin .sub .last .idx).at x).resolve n := by
  intro rev
  refine ⟨rfl, ?_, ?_, ?_⟩
  · intro h
    simp only [rev, VExpr.at, EndExpr.resolve, BinOp.eval]
    omega
  · simp only [rev, VExpr.at, EndExpr.resolve, BinOp.eval]
    omega
  · simp only [rev, VExpr.at, EndExpr.resolve, BinOp.eval]

/-- the mid-point idioms are admissible on every non-empty dimension: `end/k` for `k ≥ 1` (in particular `end/2`),
    `(end-1)/2` (truncating division: `0` on a dimension of length 1) and `end - end/2` lie in `0 … len-1` -/
theorem C06_endexpr_midpoint_admissible (len : Nat) (hlen : 0 < len) (k : Int) (hk : 0 < k) :
    (0 ≤ (EndExpr.bin .div .last (.lit k)).resolve len ∧ (EndExpr.bin .div .last (.lit k)).resolve len < len) ∧
    (0 ≤ (EndExpr.bin .div (.bin .sub .last (.lit 1)) (.lit 2)).resolve len ∧
      (EndExpr.bin .div (.bin .sub .last (.lit 1)) (.lit 2)).resolve len < len) ∧
    (0 ≤ (EndExpr.bin .sub .last (.bin .div .last (.lit 2))).resolve len ∧
      (EndExpr.bin .sub .last (.bin .div .last (.lit 2))).resolve len < len) := by
  have h0 : (0 : Int) ≤ (len : Int) - 1 := by omega
  show (0 ≤ ((len : Int) - 1).tdiv k ∧ ((len : Int) - 1).tdiv k < len) ∧
    (0 ≤ ((len : Int) - 1 - 1).tdiv 2 ∧ ((len : Int) - 1 - 1).tdiv 2 < len) ∧
    (0 ≤ (len : Int) - 1 - ((len : Int) - 1).tdiv 2 ∧ (len : Int) - 1 - ((len : Int) - 1).tdiv 2 < len)
  refine ⟨⟨Int.tdiv_nonneg h0 (Int.le_of_lt hk), ?_⟩, ?_, ?_⟩
  · have := Int.tdiv_le_self k h0
    omega
  · by_cases h1 : len = 1
    · subst h1
      decide
    · rw [Int.tdiv_eq_ediv_of_nonneg (by omega)]
      omega
  · rw [Int.tdiv_eq_ediv_of_nonneg h0]
    omega

/-- integer-vector expressions: entry number `j` of the index-vector expression `ve` over the intVector `xs`, as the
    model uses it (`VExpr.entries`, one scalar expression per entry), evaluates to `value_with_len_(j, len)` of the
    expression tree (`Array<1,int>::value_with_len_(j,len) = data_[j]` at the leaves), for every expression, every
    vector, every entry and every dimension length; and the expression has as many entries as the vector -/
theorem C06_vexpr_entry (ve : VExpr) (xs : List Int) (j : Nat) (len : Nat) (hj : j < xs.length) :
    ((ve.entries xs).getD j (.lit 0)).resolve len = ve.valueWithLen xs j len ∧
    (ve.entries xs).length = xs.length := by
  refine ⟨?_, by simp [VExpr.entries]⟩
  have hget : (ve.entries xs).getD j (.lit 0) = ve.at (xs.getD j 0) := by
    simp [VExpr.entries, List.getD_eq_getElem?_getD, List.getElem?_map, List.getElem?_eq_getElem hj]
  rw [hget]
  clear hget
  induction ve with
  | lit k => rfl
  | last => rfl
  | idx => rfl
  | bin op l r ihl ihr => simp only [VExpr.at, EndExpr.resolve, VExpr.valueWithLen, ihl, ihr]

/-- `stride(b,e,s)` with the stride itself an index expression (`get_stride_with_len`, never range-tested): the
    returned view of a rank-1 array starts at element `b`, its offset is `s·offset` with `s` resolved against the
    dimension, its extent is the formula of `C06_range_extent` for that `s`, and element `i` is parent element
    `b + i·s` -/
theorem C06_stride_expr_addr {base off : Int} {d : Nat} {b e s : EndExpr} {checked : Bool} {w : View}
    (h : slice ⟨base, [d], [off]⟩ [.stride b e s] checked = .ok w) :
    w.base = base + b.resolve d * off ∧ w.strides = [s.resolve d * off] ∧ s.resolve d ≠ 0 ∧
    (∃ n : Nat, w.dims = [n] ∧ (n : Int) = (e.resolve d + s.resolve d - b.resolve d).tdiv (s.resolve d)) ∧
    ∀ i : Int, addr w [i] = addr ⟨base, [d], [off]⟩ [b.resolve d + i * s.resolve d] := by
  have haddr := (C06_slice_addr h).2
  rw [slice_eq] at h
  obtain ⟨u, hu, rfl⟩ := construct_ok h
  obtain ⟨⟨inc, nd, ns⟩, hg, hu⟩ := bind_ok hu
  obtain ⟨⟨i1, o1⟩, hi, hg⟩ := bind_ok hg
  obtain ⟨⟨i0, n, o⟩, hur, hi⟩ := bind_ok hi
  cases hi
  cases hg
  cases hu
  obtain ⟨rfl, rfl, h3, h4, _⟩ := updateRange_ok hur
  have hd' : canonDims [n] = [n] := canonDims_singleton n
  refine ⟨congrArg (base + ·) (Int.add_zero _), rfl, h3, ⟨n, hd', h4⟩, fun i => ?_⟩
  have := (haddr [i] (congrArg List.length hd').symm).2
  simpa [expandSlice] using this

/-! ## element access: `A(i0,…,i_{R-1})` with only scalar arguments

The element accessors are separate functions in the C++: one per rank 1…7 and per const-ness in Array.h (sum of
`get_index_with_len(i_k,dimensions_[k])*offset_[k]`, transcription `elemOffset` / `elemAccess`) and again in
FixedArray.h (Horner form over the static extents, transcription `fixedElemGo` / `fixedElemAccess`).  The statements
below are for lists of any length: every rank, every position.  `resolveAll dims es` is the index list in which
argument `k` (an `int` or `end` arithmetic) is resolved against the length of dimension `k` — its own dimension. -/

/-- Position by position: component `k` of the indices an element access uses is argument `k` resolved against the
    length of dimension `k` (not of any other dimension). -/
theorem C06_elem_own_dimension (dims : List Nat) (es : List EndExpr) (k : Nat) (hd : k < dims.length) (he : k < es.length) :
    (resolveAll dims es)[k]? = some ((es[k]).resolve (dims[k])) :=
  match dims, es, k, hd, he with
  | _ :: _, _ :: _, 0, _, _ => rfl
  | _ :: ds, _ :: es, k + 1, hd, he =>
    C06_elem_own_dimension ds es k (Nat.lt_of_succ_lt_succ hd) (Nat.lt_of_succ_lt_succ he)

/-- `Array::operator()(i0,…)` (both builds, const or not, any rank): a successful access refers to the element at
    offset `base + Σ resolve(i_k, dim_k)·offset_k`, i.e. to `addr v (resolveAll v.dims es)`; the call had as many
    arguments as the array has dimensions; in the bounds-checked build every resolved index is inside its dimension. -/
theorem C06_elem_addr {v : View} {es : List EndExpr} {checked : Bool} {a : Int} (h : elemAccess v es checked = .ok a) :
    es.length = v.dims.length ∧ a = addr v (resolveAll v.dims es) ∧
      (checked = true → InRange (resolveAll v.dims es) v.dims) := by
  unfold elemAccess at h
  split at h
  · cases h
  · cases ho : elemOffset checked v.dims v.strides es with
    | error x => simp [ho, bind, Except.bind] at h
    | ok o =>
      simp only [ho, bind, Except.bind] at h
      cases h
      obtain ⟨_, h2, h3, h4⟩ := elemOffset_ok checked _ _ _ ho
      exact ⟨h2.symm, by simp [addr, h3], h4⟩

/-- The default build never raises: whatever the indices, the access goes to `addr v (resolveAll …)` (which is an
    element of the array exactly when the indices are in range: the caller's obligation in that build). -/
theorem C06_elem_unchecked_total {v : View} {es : List EndExpr} (hwf : v.WF) (hr : v.dims ≠ [])
    (hlen : es.length = v.dims.length) :
    elemAccess v es false = .ok (addr v (resolveAll v.dims es)) := by
  unfold elemAccess
  simp only [hr, if_false, elemOffset_of_inRange (c := false) v.dims v.strides es hwf hlen.symm nofun, bind, Except.bind, addr]

/-- `-DADEPT_BOUNDS_CHECKING`: the access succeeds iff EVERY index, resolved against its own dimension, is in
    `0 … dim_k-1`, and raises `index_out_of_bounds` iff some index is not — judged against that dimension. -/
theorem C06_elem_checked_iff {v : View} {es : List EndExpr} (hwf : v.WF) (hr : v.dims ≠ [])
    (hlen : es.length = v.dims.length) :
    (elemAccess v es true = .ok (addr v (resolveAll v.dims es)) ↔ InRange (resolveAll v.dims es) v.dims) ∧
    (elemAccess v es true = .error .index_out_of_bounds ↔ ¬ InRange (resolveAll v.dims es) v.dims) := by
  by_cases hin : InRange (resolveAll v.dims es) v.dims
  · have : elemAccess v es true = .ok (addr v (resolveAll v.dims es)) := by
      unfold elemAccess
      simp only [hr, if_false, elemOffset_of_inRange v.dims v.strides es hwf hlen.symm fun _ => hin, bind, Except.bind, addr]
    exact ⟨⟨fun _ => hin, fun _ => this⟩, ⟨fun h => (by rw [this] at h; cases h), fun h => absurd hin h⟩⟩
  · have : elemAccess v es true = .error .index_out_of_bounds := by
      unfold elemAccess
      simp only [hr, if_false, elemOffset_checked_err v.dims v.strides es hwf hlen.symm hin, bind, Except.bind]
    exact ⟨⟨fun h => (by rw [this] at h; cases h), fun h => absurd h hin⟩, ⟨fun _ => hin, fun _ => this⟩⟩

/-- Element access is the all-scalar case of `operator()`: it refers to the element the rank-0 view
    `slice v [at i0, …]` denotes, so the composition theorems (`C06_compose_addr`, `C06_within_parent`, …) apply to a
    chain of view-forming operations ending in an element access. -/
theorem C06_elem_is_rank0_slice (v : View) (es : List EndExpr) (checked : Bool) (hr : v.dims ≠ []) :
    slice v (es.map Ix.at) checked = (elemAccess v es checked).map elemView := by
  unfold slice sliceRaw elemAccess
  rw [sliceGo_all_scalar]
  simp only [hr, if_false]
  cases elemOffset checked v.dims v.strides es with
  | error x => rfl
  | ok o => rfl

/-- `FixedArray::operator()(i0,…)` (Horner form over the static extents; both builds, const or not, any rank): a
    successful access refers to the element of the packed row-major array with the indices `resolveAll dims es` — the
    same element `Array`'s accessor gives on a fresh row-major array of these extents —, and it lies inside the
    FixedArray's own storage when the indices are in range (bounds-checked build: always). -/
theorem C06_fixed_elem_addr {dims : List Nat} {es : List EndExpr} {checked : Bool} {a : Int}
    (h : fixedElemAccess dims es checked = .ok a) :
    es.length = dims.length ∧ a = addr (fresh true dims) (resolveAll dims es) ∧
      (checked = true → InRange (resolveAll dims es) dims ∧ 0 ≤ a ∧ a < prodInt (dims.map Int.ofNat)) := by
  unfold fixedElemAccess at h
  split at h
  · cases h
  · obtain ⟨h1, h2, h3⟩ := fixedElemGo_ok checked _ _ _ h
    have ha : a = addr (fresh true dims) (resolveAll dims es) :=
      h2.trans (horner_fresh dims _ (resolveAll_length dims es h1))
    refine ⟨h1.symm, ha, fun hc => ⟨h3 hc, ?_⟩⟩
    rw [ha]
    exact fresh_addr_bounds true dims _ (h3 hc)

/-- FixedArray, default build: never raises. -/
theorem C06_fixed_elem_unchecked_total {dims : List Nat} {es : List EndExpr} (hr : dims ≠ []) (hlen : es.length = dims.length) :
    fixedElemAccess dims es false = .ok (addr (fresh true dims) (resolveAll dims es)) := by
  unfold fixedElemAccess
  rw [if_neg hr, fixedElemGo_of_inRange (c := false) dims es 0 hlen.symm nofun,
    horner_fresh dims _ (resolveAll_length dims es hlen.symm)]

/-- FixedArray, `-DADEPT_BOUNDS_CHECKING`: raises `index_out_of_bounds` iff some index, resolved against ITS OWN static
    extent `J_k`, is outside `0 … J_k-1`; succeeds otherwise. -/
theorem C06_fixed_elem_checked_iff {dims : List Nat} {es : List EndExpr} (hr : dims ≠ []) (hlen : es.length = dims.length) :
    (fixedElemAccess dims es true = .error .index_out_of_bounds ↔ ¬ InRange (resolveAll dims es) dims) ∧
    ((∃ a, fixedElemAccess dims es true = .ok a) ↔ InRange (resolveAll dims es) dims) := by
  by_cases hin : InRange (resolveAll dims es) dims
  · have : fixedElemAccess dims es true = .ok (horner 0 dims (resolveAll dims es)) := by
      unfold fixedElemAccess
      simp only [hr, if_false, fixedElemGo_of_inRange dims es 0 hlen.symm fun _ => hin]
    exact ⟨⟨fun h => (by rw [this] at h; cases h), fun h => absurd hin h⟩, ⟨fun _ => hin, fun _ => ⟨_, this⟩⟩⟩
  · have : fixedElemAccess dims es true = .error .index_out_of_bounds := by
      unfold fixedElemAccess
      simp only [hr, if_false, fixedElemGo_checked_err dims es 0 hlen.symm hin]
    exact ⟨⟨fun _ => hin, fun _ => this⟩, ⟨fun ⟨a, h⟩ => (by rw [this] at h; cases h), fun h => absurd h hin⟩⟩

/-- `permute(i0,i1,…)` (separate arguments) and `permute(const ExpressionSize<Rank>&)` address exactly what
    `permute(const Index*)` does: a successful call of the former IS a successful `permute` with the same list. -/
theorem C06_permute_args_addr {v w : View} {p : List Int} (h : permuteArgs v p = .ok w) :
    permute v p = .ok w ∧ ∀ x ∈ p, x ≠ -1 := by
  unfold permuteArgs at h
  split at h
  · cases h
  · rename_i hn
    refine ⟨h, fun x hx hx1 => hn ?_⟩
    simp only [List.any_eq_true, beq_iff_eq]
    exact ⟨x, hx, hx1⟩

/-! ## non-vacuity

A 3×4×5 parent; `A(1, stride(end,0,-1), range(1,end))`, then `T`, then `diag_vector(-1)`: the run
succeeds in the checked build, is admissible, and the result has the expected shape; the checked
build rejects an index one past the end; a direction-inconsistent range is empty. -/
example :
    run true (fresh true [3, 4, 5])
      [.slice [.at (.lit 1), .stride (.fromEnd 0) (.lit 0) (.lit (-1)), .range (.lit 1) (.fromEnd 0)], .T, .diag (-1)]
      = .ok ⟨37, [3], [-4]⟩ := rfl

example : RunAdm true (fresh true [3, 4, 5])
    [.slice [.at (.lit 1), .stride (.fromEnd 0) (.lit 0) (.lit (-1)), .range (.lit 1) (.fromEnd 0)], .T, .diag (-1)] := by
  refine ⟨Or.inl rfl, fun w _ => ⟨trivial, fun w' _ => ⟨trivial, fun _ _ => trivial⟩⟩⟩

example : slice (fresh true [3, 4]) [.at (.lit 3), .all] true = .error .index_out_of_bounds := rfl
example : ¬ ArgsAdm [3, 4] [.at (.lit 3), .all] := fun h => absurd h.1.2 (by decide)
example : slice (fresh true [6]) [.range (.lit 3) (.lit 2)] true = .ok ⟨3, [0], [1]⟩ := rfl
example : IsPerm [2, 0, 1] 3 := ⟨rfl, by decide⟩

/-! Rank 3, nothing selected in the MIDDLE position, `T(__,range(2,1),__)` on a 2×3×4 array: the member function
computes the extents `(2,0,4)` (not `empty()`, although there is no element: the defect), the constructed view has the
extents `(0,0,0)`, is `empty()`, and keeps `data_` and the offsets; likewise `stride(1,2,-2)` in the last position
and `operator[]` of a view whose second extent is zero; a selection with elements is unchanged. -/
example : applyRaw false (fresh true [2, 3, 4]) (.slice [.all, .range (.lit 2) (.lit 1), .all]) = .ok ⟨8, [2, 0, 4], [12, 4, 1]⟩ :=
  rfl
example : (View.isEmpty ⟨8, [2, 0, 4], [12, 4, 1]⟩ = false ∧ allIndices [2, 0, 4] = []) := by decide
example : apply false (fresh true [2, 3, 4]) (.slice [.all, .range (.lit 2) (.lit 1), .all]) = .ok ⟨8, [0, 0, 0], [12, 4, 1]⟩ :=
  rfl
example : (Op.slice [.all, .range (.lit 2) (.lit 1), .all]).constructs = true ∧ 0 ∈ ([0, 0, 0] : List Nat) ∧
    View.isEmpty ⟨8, [0, 0, 0], [12, 4, 1]⟩ = true := by decide
example : apply true (fresh true [2, 3, 4]) (.slice [.all, .all, .stride (.lit 1) (.lit 2) (.lit (-2))]) = .ok ⟨1, [0, 0, 0], [12, 4, -2]⟩ :=
  rfl
example : applyRaw true ⟨0, [2, 0, 4], [12, 4, 1]⟩ (.sub1 (.lit 1)) = .ok ⟨12, [0, 4], [4, 1]⟩ ∧
    apply true ⟨0, [2, 0, 4], [12, 4, 1]⟩ (.sub1 (.lit 1)) = .ok ⟨12, [0, 0], [4, 1]⟩ := ⟨rfl, rfl⟩
example : applyRaw false (fresh true [2, 3, 4]) (.slice [.all, .range (.lit 1) (.lit 2), .at (.lit 1)]) = .ok ⟨5, [2, 2], [12, 4]⟩ ∧
    apply false (fresh true [2, 3, 4]) (.slice [.all, .range (.lit 1) (.lit 2), .at (.lit 1)]) = .ok ⟨5, [2, 2], [12, 4]⟩ ∧
    0 ∉ ([2, 2] : List Nat) := by decide
example : (fresh true [2, 3, 4]).dims = canonDims (fresh true [2, 3, 4]).dims ∧ ∀ d ∈ ([2, 3, 4] : List Nat), d ≠ 0 := by decide
example : run false (fresh true [2, 3, 4]) [.slice [.all, .range (.lit 2) (.lit 1), .all], .softLink, .sub1 (.lit 0), .T]
    = .ok ⟨8, [0, 0], [1, 4]⟩ := rfl

/-! `A(1, end, idx)` on a 2×5×4 array with `idx = (3,0,2)`: `end` is resolved against the extent 5 of
dimension 1 (cells 39, 36, 38 = row (1,4)); the selectors are admissible; in the checked build an entry
equal to the extent is rejected and the stores made before it stay inside the parent. -/
example : ∃ iv, indexed (fresh true [2, 5, 4]) [.at (.lit 1), .at (.fromEnd 0), .vec [.lit 3, .lit 0, .lit 2]] false = .ok iv ∧
    iv.dims = [3] ∧ ixRead false iv = .ok [39, 36, 38] := ⟨_, rfl, rfl, rfl⟩
example : SelsAdm [2, 5, 4] [.at (.lit 1), .at (.fromEnd 0), .vec [.lit 3, .lit 0, .lit 2]] := by
  simp only [SelsAdm, SelAdm]
  decide
example : ∃ iv, indexed (fresh true [6]) [.vec [.lit 3, .lit 6, .lit 2]] true = .ok iv ∧ iv.isEmpty = false ∧
    ixRead true iv = .error .index_out_of_bounds ∧
    ixStores true iv [-1, -2, -3] = ([(3, -1)], some .index_out_of_bounds) := ⟨_, rfl, rfl, rfl, rfl⟩
example : ¬ SelsAdm [6] [.vec [.lit 3, .lit 6, .lit 2]] :=
  fun h => absurd (h.1 (.lit 6) (by decide)).2 (by decide)
example : ∃ iv, indexed (fresh true [3, 4]) [.all, .vec [.lit 3, .lit 1]] true = .ok iv ∧
    iv.dims = [3, 2] ∧ ixRead true iv = .ok [3, 1, 7, 5, 11, 9] := ⟨_, rfl, rfl, rfl⟩

/-! `v(12-end)` on 10 elements is element 3, not `end-12 = -3`; `stride(end/3, end, end/4)` on 10 elements is
3,5,7,9; `v(9-idx)` with `idx = (1,3,0)` is 8,6,9; a division by zero is flagged. -/
example : slice (fresh true [10]) [.at (.bin .sub (.lit 12) .last)] false = .ok ⟨3, [], []⟩ := rfl
example : slice (fresh true [10]) [.stride (.bin .div .last (.lit 3)) .last (.bin .div .last (.lit 4))] true
    = .ok ⟨3, [4], [2]⟩ := rfl
example : ((VExpr.bin .sub (.lit 9) .idx).entries [1, 3, 0]).map (EndExpr.resolve 10) = [8, 6, 9] := rfl
example : (EndExpr.bin .div (.lit 3) (.bin .sub .last (.lit 3))).defined 4 = false := rfl
example : (0 : Int) < 2 ∧ (2 : Int) < ((10 : Nat) : Int) - 1 := by decide

/- element access: a 2×3×4 array, `A(0,end,1)`: the middle `end` is 2 (its own dimension has length 3), the element is
   cell 9; resolved against the length of the LAST dimension it would be 3 — cell 13, and in the bounds-checked build an
   error.  `A(0,3,1)` is rejected by the bounds-checked build although 3 is a valid index of the last dimension. -/
example : elemAccess (fresh true [2, 3, 4]) [.lit 0, .last, .lit 1] true = .ok 9 := rfl
example : fixedElemAccess [2, 3, 4] [.lit 0, .last, .lit 1] false = .ok 9 := rfl
example : fixedElemAccess [2, 3, 4] [.lit 0, .lit 3, .lit 1] true = .error .index_out_of_bounds := rfl
example : ¬ InRange (resolveAll [2, 3, 4] [.lit 0, .lit 3, .lit 1]) [2, 3, 4] := fun h => absurd h.2.1.2 (by decide)
example : InRange (resolveAll [2, 3, 4] [.lit 0, .last, .lit 1]) [2, 3, 4] := by
  simp only [resolveAll, InRange]
  decide
example : fixedElemAccess [3, 2, 5, 4] [.fromEnd 0, .bin .div .last (.lit 2), .bin .sub (.lit 7) .last, .last] true = .ok 95 := rfl
example : permuteArgs (fresh true [2, 3, 4]) [2, 0, 1] = .ok ⟨0, [4, 2, 3], [1, 12, 4]⟩ := rfl
example : permuteArgs (fresh true [2, 3]) [1, -1] = .error .invalid_dimension := rfl

end Adept.Views
