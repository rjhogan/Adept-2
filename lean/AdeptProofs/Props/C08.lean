import AdeptProofs.Lemmas.GradAlloc
import AdeptProofs.Lemmas.GradObj
/-!
# C08 — every live active object owns a distinct gradient slot, in any order

The invariants and their preservation are in `AdeptProofs/Lemmas/GradAlloc.lean` (allocator) and `AdeptProofs/Lemmas/GradObj.lean`
(objects); here are their consequences.
The first part is about `AdeptModel/GradAlloc.lean`, the transcription of
`Stack::register_gradient(s)`, `unregister_gradient(s)` and `new_recording`; the second part (`C08_obj_…`) is about the
OBJECT layer `AdeptModel/GradObj.lean` (Active, Storage reference counting, Array / SpecialMatrix construction, copy, link, views,
resize, clear, assignment to an empty array, swap, destruction, FixedArray, std::vector<adouble>, adouble[n], allocation
failure, construction from / assignment of nested initializer lists, EMPTY views, link to a temporary view), whose operations are sequences of allocator calls: it DISCHARGES the hypothesis `Legal` of the first part.  The
correspondence check (checks/c08.py) ties both models to the C++ on every run.
-/
namespace Adept.GradAlloc

/-- the constructor's state satisfies the invariant with no live block -/
theorem C08_inv_init : Inv stackInit [] := inv_init

theorem C08_inv_step {s : GA} {L : List Block} (op : Op) (h : Inv s L) (hl : Legal L op) :
    Inv (step s op).1 (ghost s L op) := inv_step op h hl

/-- hence it holds after every finite legal history, whatever its length or order -/
theorem C08_inv_reachable (ops : List Op) {s : GA} {L : List Block}
    (h : runHist stackInit [] ops = some (s, L)) : Inv s L := inv_reachable ops h

/-- a freshly returned block is disjoint from every live block and lies below the number of
    gradients the stack reports as needed (`max_gradients()`) -/
theorem C08_fresh_disjoint {s : GA} {L : List Block} (n : Nat) (hn : 0 < n) (h : Inv s L) :
    (∀ j, inBlock ((regN n s).2, n) j → ¬ isLive L j) ∧ (regN n s).2 + n ≤ (regN n s).1.maxGrad :=
  fresh_disjoint n hn h

theorem C08_fresh_disjoint1 {s : GA} {L : List Block} (h : Inv s L) :
    (¬ isLive L (reg1 s).2) ∧ (reg1 s).2 + 1 ≤ (reg1 s).1.maxGrad := by
  rw [reg1_eq_regN h.gapsOK]
  obtain ⟨h1, h2⟩ := fresh_disjoint 1 Nat.one_pos h
  exact ⟨h1 _ ⟨Nat.le_refl _, Nat.lt_succ_self _⟩, h2⟩

/-- all live slots are pairwise distinct and below `max_gradients()`; the counter is exact -/
theorem C08_live_distinct_below {s : GA} {L : List Block} (h : Inv s L) :
    L.Pairwise (fun B C => ∀ j, ¬ (inBlock B j ∧ inBlock C j)) ∧
    (∀ j, isLive L j → j < s.maxGrad) ∧
    s.nReg = (L.map (fun B => (B.2 : Int))).sum :=
  ⟨h.disj, fun j hl => Nat.lt_of_lt_of_le ((h.used_iff j).2 hl).1 h.le_max, h.count⟩

/-- released slots are recycled but never held twice: a slot is in a gap iff no live block owns it -/
theorem C08_recycled_never_shared {s : GA} {L : List Block} (h : Inv s L) (j : Nat) (hj : j < s.iGrad) :
    isFree s.gaps j ↔ ¬ isLive L j := h.tile j hj

/-- the gap list is a function of the live set alone: two invariant states with the same top
    and the same live blocks have the same gap list -/
theorem C08_gaps_canonical {s s' : GA} {L : List Block} (h : Inv s L) (h' : Inv s' L)
    (ht : s.iGrad = s'.iGrad) : s.gaps = s'.gaps := gaps_canonical h h' ht

/-- so the `most_recent_gap_` fast path never changes which slots are free:
    releasing with and without a cursor gives the same gap list and the same top -/
theorem C08_cursor_irrelevant {s : GA} {L : List Block} (i n : Nat) (h : Inv s L) (hl : (i, n) ∈ L) :
    (unregN i n s).gaps = (unregN i n { s with recent := none }).gaps ∧
    (unregN i n s).iGrad = (unregN i n { s with recent := none }).iGrad :=
  cursor_irrelevant i n h hl

/-! Non-vacuity: a concrete non-LIFO history (three scalars, a block of 3, release of the
middle scalar and of the block, re-registration into the recycled gap) is legal, so the
hypotheses of `C08_inv_reachable` are met by a state with a non-empty gap list and a cursor. -/
example : ∃ s L, runHist stackInit []
    [.reg1, .reg1, .regN 3, .reg1, .unreg1 1, .unregN 2 3, .reg1, .regN 2] = some (s, L)
    ∧ s.gaps = [(4, 4)] ∧ s.recent = some 0 ∧ L.length = 4 := by
  exact ⟨_, _, rfl, rfl, rfl, rfl⟩

/-! ## The object layer: `Legal` is discharged

`orun (initP P) ops` is the state after the object-level history `ops` on a fresh stack (`P` = packet size of the build, which
decides the padding of matrix rows); `trace s` is the sequence of allocator operations performed so far; `blocks s` are the slot
blocks of the live OWNERS (every adouble / vector element / adouble[] element, every active FixedArray, every Storage). -/
open Adept.GradObj

/-- Every object-level history, of any length and in any order (inapplicable operations included: they do nothing), performs a
    LEGAL allocator history — every release names a block that is live — which leads exactly to the allocator state of the stack,
    and the live blocks of that allocator history are the blocks of the live owners, no more (nothing leaks) and no fewer. -/
theorem C08_obj_history_legal {P : Nat} (hP : 0 < P) (ops : List OOp) :
    ∃ L, runHist stackInit [] (trace (orun (initP P) ops)) = some ((orun (initP P) ops).ga, L) ∧
         (blocks (orun (initP P) ops)).Perm L := by
  obtain ⟨L, h⟩ := orun_inv ops (oinv_init hP)
  exact ⟨L, trace_eq _ ▸ h.hist, h.perm⟩

/-- the same for every sequence of the primitive member-level actions (register / unregister / new Storage / add_link /
    remove_link / swap) the object operations are made of -/
theorem C08_obj_prim_history_legal {P : Nat} (hP : 0 < P) (ps : List Prim) :
    ∃ L, runHist stackInit [] (trace (prun (initP P) ps)) = some ((prun (initP P) ps).ga, L) ∧
         (blocks (prun (initP P) ps)).Perm L := by
  obtain ⟨L, h⟩ := prun_inv ps (oinv_init hP)
  exact ⟨L, trace_eq _ ▸ h.hist, h.perm⟩

/-- At every point of every object-level history the slot blocks of distinct live owners (scalars, vector elements, fixed
    arrays, storages) are pairwise disjoint, non-empty, below `max_gradients()`, and `n_gradients_registered()` is the total
    size of the live owners. -/
theorem C08_obj_owners_disjoint {P : Nat} (hP : 0 < P) (ops : List OOp) :
    let s := orun (initP P) ops
    (blocks s).Pairwise (fun B C => ∀ j, ¬ (inBlock B j ∧ inBlock C j)) ∧
    (∀ B ∈ blocks s, 0 < B.2 ∧ B.1 + B.2 ≤ s.ga.maxGrad) ∧
    s.ga.nReg = ((blocks s).map (fun B => (B.2 : Int))).sum := by
  intro s
  obtain ⟨L, h⟩ := orun_inv ops (oinv_init hP)
  have hinv := inv_of_OInv h
  refine ⟨h.perm.symm.pairwise hinv.disj Disj.symm, ?_, ?_⟩
  · intro B hB
    have := hinv.below B (h.perm.mem_iff.1 hB)
    exact ⟨this.1, Nat.le_trans this.2 hinv.le_max⟩
  · rw [hinv.count]
    exact (perm_sum_int _ h.perm).symm

/-- Views, copies and links share their owner's slots and nothing else: an array object that points to a storage points to a
    LIVE storage (one of the owners), its gradient index is the storage's plus its data offset, every slot it addresses lies in
    the block of that storage, and therefore in the block of no other live owner. -/
theorem C08_obj_views_within_owner {P : Nat} (hP : 0 < P) (ops : List OOp) :
    let s := orun (initP P) ops
    ∀ p ∈ s.arrs, ∀ sid, p.2.st = some sid →
      ∃ t ∈ s.heap, t.sid = sid ∧ (t.gi, t.n) ∈ blocks s ∧ p.2.g = some (t.gi + p.2.off) ∧
        (∀ j, t.gi + p.2.off ≤ j → j ≤ t.gi + p.2.off + ext p.2.dims p.2.strides → inBlock (t.gi, t.n) j) ∧
        (∀ B ∈ blocks s, B ≠ (t.gi, t.n) →
          ∀ j, t.gi + p.2.off ≤ j → j ≤ t.gi + p.2.off + ext p.2.dims p.2.strides → ¬ inBlock B j) := by
  intro s p hp sid hst
  obtain ⟨L, h⟩ := orun_inv ops (oinv_init hP)
  obtain ⟨t, ht, h1, h2, h3⟩ := h.arrs.refs p hp sid hst
  have hmem : (t.gi, t.n) ∈ blocks s := by
    simp only [blocks, List.mem_append]
    exact Or.inr (List.mem_map.2 ⟨t, ht, rfl⟩)
  have hin : ∀ j, t.gi + p.2.off ≤ j → j ≤ t.gi + p.2.off + ext p.2.dims p.2.strides → inBlock (t.gi, t.n) j := by
    intro j hj1 hj2
    simp only [inBlock]
    omega
  refine ⟨t, ht, h1, hmem, h3, hin, ?_⟩
  intro B hB hne j hj1 hj2 hBj
  have hd := (C08_obj_owners_disjoint hP ops).1
  exact pairwise_mem Disj.symm hd hB hmem hne j ⟨hBj, hin j hj1 hj2⟩

/-- The gradients of a storage are held exactly as long as some array links to it: the link count of every live storage is the
    number of array objects pointing to it and is positive (a storage without link does not exist: `remove_link` released its
    block when the LAST link went), every `storage_` pointer names a live storage, and no dangling pointer is ever followed. -/
theorem C08_obj_storage_live_iff_linked {P : Nat} (hP : 0 < P) (ops : List OOp) :
    let s := orun (initP P) ops
    (∀ t ∈ s.heap, 0 < t.links ∧ t.links = refcount s.arrs t.sid) ∧
    (∀ p ∈ s.arrs, ∀ sid, p.2.st = some sid → ∃ t ∈ s.heap, t.sid = sid) ∧
    s.ub = false := by
  intro s
  obtain ⟨L, h⟩ := orun_inv ops (oinv_init hP)
  refine ⟨h.arrs.links, ?_, h.noub⟩
  intro p hp sid hst
  obtain ⟨t, ht, h1, _⟩ := h.arrs.refs p hp sid hst
  exact ⟨t, ht, h1⟩

/-- Allocation failure: a constructor whose data allocation throws calls the allocator not at all and leaves no owner behind
    (in ANY state), and a resize whose data allocation throws does exactly what `clear()` does: it releases this reference and
    registers nothing. -/
theorem C08_obj_alloc_fault_registers_nothing (s : OS) (h kind : Nat) (dims : List Nat) :
    ((ostep s (.arr h kind dims true)).ga = s.ga ∧ trace (ostep s (.arr h kind dims true)) = trace s ∧
      blocks (ostep s (.arr h kind dims true)) = blocks s) ∧
    (expand s (.resize h dims true) = none ∨ ostep s (.resize h dims true) = ostep s (.clear h)) := by
  constructor
  · have e : expand s (.arr h kind dims true) =
        (if (freshHandle s h && dims.length == nArgs kind) = true then
          (if dims.any (fun d => d == 0) = true then some [Prim.arrNew h kind]
           else some [Prim.arrNew h kind, Prim.arrDel h])
         else none) := rfl
    obtain ⟨h1, h2, h3, h4⟩ := pstep_arrNew_frame s h kind
    obtain ⟨g1, g2, g3, g4⟩ := pstep_arrDel_frame (pstep s (.arrNew h kind)) h
    unfold ostep
    rw [e]
    by_cases c1 : (freshHandle s h && dims.length == nArgs kind) = true
    · by_cases c2 : dims.any (fun d => d == 0) = true
      · rw [if_pos c1, if_pos c2]
        simp only [prun, trace, blocks, h1, h2, h3, h4, and_self]
      · rw [if_pos c1, if_neg c2]
        simp only [prun, trace, blocks, h1, h2, h3, h4, g1, g2, g3, g4, and_self]
    · rw [if_neg c1]
      simp only [and_self]
  · have e1 : expand s (.resize h dims true) =
        (match s.arrs.lookup h with
         | some a =>
           if (dims.length != nArgs a.kind) = true then none
           else if dims.any (fun d => d == 0) = true then some [Prim.arrRelease h]
           else some [Prim.arrRelease h]
         | none => none) := rfl
    have e2 : expand s (.clear h) =
        (match s.arrs.lookup h with
         | some _ => some [Prim.arrRelease h]
         | none => none) := rfl
    unfold ostep
    rw [e1, e2]
    cases hl : s.arrs.lookup h with
    | none => left; rfl
    | some a =>
      by_cases hlen : (dims.length != nArgs a.kind) = true
      · left; simp [hlen]
      · right
        simp [hlen]

/-- Registration count of an object CONSTRUCTED FROM AN INITIALIZER LIST, FixedArray (`FixedArray.h`, the `std::initializer_list`
    constructors of every rank: `GradientIndex<IsActive>(length_, false)`): in ANY state, an ACTIVE FixedArray of extents `dims` makes
    exactly ONE allocator call, `register_gradients(length_)` with `length_` the product of its extents, and holds exactly the block
    that call returned; an INACTIVE one calls the allocator not at all. -/
theorem C08_obj_list_fixed_registers_length (s : OS) (h : Nat) (dims : List Nat)
    (hf : freshHandle s h = true) (hne : dims ≠ []) (hpos : dims.all (fun d => 0 < d) = true) (hl : 0 < prodDims dims) :
    (trace (ostep s (.listFixed h dims true)) = trace s ++ [Op.regN (prodDims dims)] ∧
      (ostep s (.listFixed h dims true)).owns.lookup h =
        some { scalar := false, bs := [((regN (prodDims dims) s.ga).2, prodDims dims)], cap := 0, tag := 5 }) ∧
    ((ostep s (.listFixed h dims false)).ga = s.ga ∧ trace (ostep s (.listFixed h dims false)) = trace s ∧
      ((ostep s (.listFixed h dims false)).owns.lookup h).map (·.bs) = some []) := by
  have hown : s.owns.lookup h = none := by
    simp only [freshHandle, Bool.and_eq_true, Option.isNone_iff_eq_none] at hf
    exact hf.1
  have hne' : (dims != []) = true := by simpa using hne
  have e1 : expand s (.listFixed h dims true) = some [.ownNew h false 5, .ownPush h (prodDims dims) 0] := by
    simp [expand, hf, hne', hpos]
  have e2 : expand s (.listFixed h dims false) = some [.ownNew h false 4] := by
    simp [expand, hf, hne', hpos]
  constructor
  · simp [ostep, e1, prun, pstep, hown, hl, callRegN, putOwn, trace, insertAt]
  · simp [ostep, e2, prun, pstep, hown, trace]

/-- Registration count of an Array CONSTRUCTED FROM AN INITIALIZER LIST (`Array.h`, the `std::initializer_list` constructors:
    `data_(0), storage_(0), dimensions_(0)`, then `*this = list`, which resizes the EMPTY array to the shape of the list): in ANY
    state an ACTIVE Array makes exactly ONE allocator call, `register_gradients(data volume of the shape)` (for a vector: its
    length), made by its new Storage, which it alone links to; an INACTIVE one calls the allocator not at all. -/
theorem C08_obj_list_array_registers_volume (s : OS) (h : Nat) (dims : List Nat)
    (hf : freshHandle s h = true) (hne : dims ≠ []) (hlen : dims.length < 8) (hpos : dims.all (fun d => 0 < d) = true) :
    (trace (ostep s (.listArr h dims true)) = trace s ++ [Op.regN (layout dims.length s.packet dims).2.2] ∧
      (ostep s (.listArr h dims true)).heap =
        { sid := s.nextSid, n := (layout dims.length s.packet dims).2.2, links := 1,
          gi := (regN (layout dims.length s.packet dims).2.2 s.ga).2 } :: s.heap) ∧
    ((ostep s (.listArr h dims false)).ga = s.ga ∧ trace (ostep s (.listArr h dims false)) = trace s ∧
      (ostep s (.listArr h dims false)).heap = s.heap) ∧
    (∀ n P, (layout 1 P [n]).2.2 = n) := by
  have hown : s.owns.lookup h = none := by
    simp only [freshHandle, Bool.and_eq_true, Option.isNone_iff_eq_none] at hf
    exact hf.1
  have harr : s.arrs.lookup h = none := by
    simp only [freshHandle, Bool.and_eq_true, Option.isNone_iff_eq_none] at hf
    exact hf.2
  have hne' : (dims != []) = true := by simpa using hne
  have hk : nArgs dims.length = dims.length := by
    simp only [nArgs]; split <;> omega
  have e1 : expand s (.listArr h dims true) = some [.arrNew h dims.length, .arrAlloc h dims] := by
    simp [expand, hf, hne', hlen, hpos]
  have e2 : expand s (.listArr h dims false) = some [.ownNew h false 4] := by
    simp [expand, hf, hne', hlen, hpos]
  refine ⟨?_, ?_, ?_⟩
  · simp [ostep, e1, prun, pstep, harr, emptyArr, hne, hpos, hk, callRegN, putArr, trace]
  · simp [ostep, e2, prun, pstep, hown, trace]
  · intro n P
    simp [layout, packAux]

/-- ASSIGNMENT of an initializer list to an object that has elements (an Array that is not `empty()` and has the shape of the list, an
    object made from a list) calls the allocator not at all and changes no object; assigned to an `empty()` array WITHOUT storage it is
    the construction above: one `register_gradients` by a new Storage. -/
theorem C08_obj_list_assign_registers_nothing (s : OS) (h : Nat) (dims : List Nat) (a : ArrObj)
    (hown : s.owns.lookup h = none) (ha : s.arrs.lookup h = some a) (hk : a.kind < 10) (hlen : dims.length = a.kind)
    (hpos : dims.all (fun d => 0 < d) = true) :
    (isEmptyArr a = false → a.dims = dims → ostep s (.assignList h dims) = s) ∧
    (a.st = none → ostep s (.assignList h dims) = pstep s (.arrAlloc h dims)) := by
  have hk' : ¬ (a.kind ≥ 10) := by omega
  have hl' : (dims.length != a.kind) = false := by simp [hlen]
  constructor
  · intro he hd
    have e : expand s (.assignList h dims) = some [] := by simp [expand, hown, ha, hk', hl', hpos, he, hd]
    simp [ostep, e, prun]
  · intro hst
    have he : isEmptyArr a = true := by simp [isEmptyArr, hst]
    have e : expand s (.assignList h dims) = some [.arrAlloc h dims] := by
      simp [expand, hown, ha, hk', hl', hpos, he, hst]
    simp [ostep, e, prun]

/-! Non-vacuity of the object-layer theorems: a concrete history — a scalar, a 2x5 matrix whose rows are padded (packet size 2:
12 slots), a copy of it, a view of its second row, destruction of the PARENT, a scalar, a linked vector that is then resized
(releases only its own reference), a failing construction — reaches a state with a storage of three links that outlived its
parent, views inside it, a recycled gap and a legal trace. -/
example :
    let s := orun (initP 2) [.act 0, .arr 1 2 [2, 5] false, .copy 2 1, .slice 3 1 [.fix 1, .rng 0 4 1], .del 1, .act 4,
                             .arr 5 1 [3] false, .arr 6 1 [2] false, .link 6 5, .resize 6 [4] false, .arr 7 1 [9] true,
                             .del 0, .actTemp 8]
    s.heap.map (fun t => (t.gi, t.n, t.links)) = [(17, 4, 1), (14, 3, 1), (1, 12, 2)] ∧
    s.arrs.map (fun p => (p.1, p.2.g, ext p.2.dims p.2.strides + 1)) =
      [(6, some 17, 4), (5, some 14, 3), (3, some 7, 5), (2, some 1, 11)] ∧
    s.owns.map (fun p => (p.1, p.2.bs)) = [(8, [(21, 1)]), (4, [(13, 1)])] ∧
    s.ga.gaps = [(0, 0)] ∧ s.ga.nReg = 21 ∧ s.ub = false ∧
    trace s = [.reg1, .regN 12, .reg1, .regN 3, .regN 2, .unregN 17 2, .regN 4, .unreg1 0, .reg1, .reg1, .unreg1 0] :=
  ⟨rfl, rfl, rfl, rfl, rfl, rfl, rfl⟩

/-! Non-vacuity of the initializer-list / empty-view / link-to-temporary part: the hypotheses of `C08_obj_list_fixed_registers_length` hold
in a concrete state, and a concrete history — a 2x3 active matrix and a 2x1x2 active FixedArray made from lists, an inactive FixedArray, an
EMPTY view of the matrix (it links: two links, extents all zero) that outlives the matrix, a default-constructed vector assigned a list,
a vector linked to a TEMPORARY view of it, the empty view assigned a list (it gives its link back — the matrix' six slots are released —
and gets a new Storage of six), the FixedArray destroyed — ends with exact link counts and a legal trace. -/
example :
    freshHandle (initP 2) 0 = true ∧ ([2, 1, 2] : List Nat) ≠ [] ∧ ([2, 1, 2] : List Nat).all (fun d => 0 < d) = true ∧
      0 < prodDims [2, 1, 2] := by
  decide

example :
    let s := orun (initP 2) [.act 0, .listArr 1 [2, 3] true, .listFixed 2 [2, 1, 2] true, .listFixed 3 [3] false,
                              .slice 4 1 [.rng 1 0 1, .rng 0 2 1]]
    s.heap.map (fun t => (t.gi, t.n, t.links)) = [(1, 6, 2)] ∧
    s.arrs.map (fun p => (p.1, p.2.g, p.2.dims, p.2.off)) = [(4, some 4, [0, 0], 3), (1, some 1, [2, 3], 0)] :=
  ⟨rfl, rfl⟩

example :
    let s := orun (initP 2) [.act 0, .listArr 1 [2, 3] true, .listFixed 2 [2, 1, 2] true, .listFixed 3 [3] false,
                              .slice 4 1 [.rng 1 0 1, .rng 0 2 1], .del 1, .act 5, .arr 7 1 [0] false, .assignList 7 [3],
                              .arr 8 1 [2] false, .linkTemp 8 7 [.rng 1 2 1], .assignList 4 [2, 3], .del 2]
    s.heap.map (fun t => (t.gi, t.n, t.links)) = [(1, 6, 1), (12, 3, 2)] ∧
    s.arrs.map (fun p => (p.1, p.2.g, p.2.dims, p.2.off)) = [(4, some 1, [2, 3], 0), (8, some 13, [2], 1), (7, some 12, [3], 0)] ∧
    s.owns.map (fun p => (p.1, p.2.bs)) = [(5, [(11, 1)]), (3, []), (0, [(0, 1)])] ∧
    s.ga.gaps = [(7, 10)] ∧ s.ga.nReg = 11 ∧ s.ub = false ∧
    trace s = [.reg1, .regN 6, .regN 4, .reg1, .regN 3, .regN 2, .unregN 15 2, .unregN 1 6, .regN 6, .unregN 7 4] :=
  ⟨rfl, rfl, rfl, rfl, rfl, rfl, rfl⟩

end Adept.GradAlloc
