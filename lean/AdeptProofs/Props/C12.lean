import AdeptProofs.Lemmas.Threads
/-!
# C12 — threads that each own a stack do not interfere

Property theorems only; helper lemmas are in `AdeptProofs/Lemmas/Threads.lean`.  All statements are about the
abstract machine of `AdeptModel/Threads.lean`: worlds with per-thread components and named shared locations, API
operations as atomic steps, a footprint table, schedules = lists of thread ids.  The machine is tied to the working tree
by the two GENERATED tables `Generated/Globals.lean` (symbol tables of the compiled library) and
`Generated/StorageCfg.lean` (`Storage.h`): the hypotheses of the general theorems are discharged from them
(`C12_globals_accounted`, `C12_hypothesis_generated`), so an edit that makes the stack pointer process-wide, adds an
unclassified writable global, or turns the storage counters back into plain integers breaks an obligation here.  Whether the real binary performs only the accesses the table lists is OBSERVED (ThreadSanitizer runs
of harness/drv_threads.cpp), not proved.
-/
namespace Adept.Threads
open Adept.Generated

/-- The symbol table of the compiled library: `adept::_stack_current_thread` is there and thread-local, nothing else is
    thread-local, and every other writable data symbol is one the footprint table knows (`classify`). -/
theorem C12_globals_accounted : globalsAccounted Globals.table = true := by
  decide +kernel

/-- The hypothesis of the theorems below, for the default C++11 build of the working tree and the operation kinds of a
    C12 workload (own stack, recording, differentiation, private arrays and views, printing): the active-stack pointer is
    thread-local; no operation writes a shared location that an operation reads; wherever two operations touch the same
    shared location and one writes, both accesses are atomic (the two storage counters). -/
theorem C12_hypothesis_generated :
    cfgDefault.stackPtrTLS = true ∧ Isolated cfgDefault c12Kinds ∧ NoPlainConflict cfgDefault c12Kinds :=
  have hT : cfgDefault.stackPtrTLS = true := by
    -- the flag is `stackPtrIsTLS Globals.table` by definition; `dsimp` shows it
    dsimp only [cfgDefault]
    exact stackPtrIsTLS_of_globalsAccounted C12_globals_accounted
  ⟨hT, c12Kinds_safe cfgDefault hT (by decide)⟩

/-- The literal hypothesis "no operation of the workload writes a shared location" is a special case of the one used. -/
theorem C12_no_shared_write_suffices (c : Cfg) (K : List OpKind) (h : NoSharedWrite c K) :
    Isolated c K ∧ NoPlainConflict c K := by
  refine ⟨fun k hk k' _ l hl => ?_, fun k hk k' hk' a ha b hb => ?_⟩
  · rw [h k hk] at hl
    simp at hl
  -- a clash needs a shared write by `k` or `k'`
  · refine Bool.eq_false_iff.mpr fun hcl => ?_
    simp only [Access.clash, Bool.and_eq_true, Bool.or_eq_true, decide_eq_true_eq] at hcl
    obtain ⟨⟨⟨hsh, heq⟩, hw⟩, _⟩ := hcl
    cases hla : a.loc <;> simp [hla, Loc.isShared] at hsh
    have hmem := hw.imp (mem_sharedWrites ha hla) (mem_sharedWrites hb (heq ▸ hla))
    rw [h k hk, h k' hk'] at hmem
    simp at hmem

/-- NON-INTERFERENCE.  If the stack pointer is thread-local and no operation kind of the workload writes a shared location
    that one of them reads, then after EVERY schedule what thread `t` sees (its stack pointer, its tape, every result it
    obtained, its arrays) is exactly what it sees after running the operations it has executed so far alone. -/
theorem C12_noninterference (c : Cfg) (W : Workload) (K : List OpKind) (w0 : World)
    (hT : c.stackPtrTLS = true) (hI : Isolated c K) (hU : UsesOnly W K) (sched : List Nat) (t : Nat) :
    view t (exec c W sched (Run.start w0)).w
      = view t (solo c t ((W t).take (min (sched.count t) (W t).length)) w0) := by
  have h := (exec_invariant c W (NIInv c W K w0) (niinv_step c W K w0 hT hI hU) sched _ (niinv_start c W K w0)).1 t
  have hpc := exec_pc c W t sched (Run.start w0) (by simp [Run.start])
  simp only [Run.start, Nat.zero_add] at hpc
  rw [h]; simp only [Run.start] at hpc ⊢; rw [hpc]

/-- … in particular, once the schedule has let `t` finish, `t` has exactly the results of its solo run. -/
theorem C12_noninterference_complete (c : Cfg) (W : Workload) (K : List OpKind) (w0 : World)
    (hT : c.stackPtrTLS = true) (hI : Isolated c K) (hU : UsesOnly W K) (sched : List Nat) (t : Nat)
    (hfin : (W t).length ≤ sched.count t) :
    view t (exec c W sched (Run.start w0)).w = view t (solo c t (W t) w0) := by
  rw [C12_noninterference c W K w0 hT hI hU sched t, Nat.min_eq_right hfin, List.take_length]

/-- Non-interference for the working tree: any number of threads, any C12 workload, any schedule. -/
theorem C12_noninterference_generated (W : Workload) (hU : UsesOnly W c12Kinds) (w0 : World) (sched : List Nat) (t : Nat)
    (hfin : (W t).length ≤ sched.count t) :
    view t (exec cfgDefault W sched (Run.start w0)).w = view t (solo cfgDefault t (W t) w0) :=
  C12_noninterference_complete cfgDefault W c12Kinds w0 C12_hypothesis_generated.1 C12_hypothesis_generated.2.1 hU sched t hfin

/-- RACE FREEDOM.  If all conflicting accesses to shared locations among the workload's operation kinds are atomic, then
    in every schedule no two executed steps of different threads contain a data race (same location, one a write, one
    plain).  Thread-local and owned locations of different threads are different locations. -/
theorem C12_race_free (c : Cfg) (W : Workload) (K : List OpKind) (hN : NoPlainConflict c K) (hU : UsesOnly W K)
    (sched : List Nat) (w0 : World) :
    ∀ e ∈ (exec c W sched (Run.start w0)).trace, ∀ e' ∈ (exec c W sched (Run.start w0)).trace,
      ∀ a ∈ footprint c e.2.kind, ∀ b ∈ footprint c e'.2.kind, ¬ Races e.1 a e'.1 b := by
  intro e he e' he' a ha b hb hr
  have hk := hU e.1 e.2 (trace_mem c W sched w0 e he)
  have hk' := hU e'.1 e'.2 (trace_mem c W sched w0 e' he')
  have := hN _ hk _ hk' a ha b hb
  rw [races_clash hr] at this
  exact Bool.noConfusion this

/-- Race freedom for the working tree. -/
theorem C12_race_free_generated (W : Workload) (hU : UsesOnly W c12Kinds) (sched : List Nat) (w0 : World) :
    ∀ e ∈ (exec cfgDefault W sched (Run.start w0)).trace, ∀ e' ∈ (exec cfgDefault W sched (Run.start w0)).trace,
      ∀ a ∈ footprint cfgDefault e.2.kind, ∀ b ∈ footprint cfgDefault e'.2.kind, ¬ Races e.1 a e'.1 b :=
  C12_race_free cfgDefault W c12Kinds C12_hypothesis_generated.2.2 hU sched w0

/-- ACTIVE ONLY IN THE ACTIVATOR.  With a thread-local pointer, starting with no active stack anywhere: after every
    schedule, if thread `u` has an active stack then `u` itself executed the `Stack` constructor / `activate()` that put
    it there — no operation of another thread can make a stack active in `u`. -/
theorem C12_active_only_in_activator (c : Cfg) (hT : c.stackPtrTLS = true) (W : Workload) (w0 : World)
    (h0 : ∀ u, w0.tls u = 0) (sched : List Nat) (u : Nat)
    (hne : (exec c W sched (Run.start w0)).w.tls u ≠ 0) :
    ∃ op ∈ (W u).take ((exec c W sched (Run.start w0)).pc u),
      (op.kind = .newStack ∨ op.kind = .activate) ∧ (exec c W sched (Run.start w0)).w.tls u = op.arg + 1 :=
  exec_invariant c W (ActInv W) (actinv_step c hT W) sched _ (fun u hne => absurd (h0 u) hne) u hne

/-- A thread that never creates or activates a stack observes `active_stack() == 0`, whatever the others do. -/
theorem C12_stackless_thread_reads_zero (c : Cfg) (hT : c.stackPtrTLS = true) (W : Workload) (w0 : World)
    (h0 : ∀ u, w0.tls u = 0) (sched : List Nat) (u : Nat)
    (hno : ∀ op ∈ W u, op.kind ≠ .newStack ∧ op.kind ≠ .activate) :
    (exec c W sched (Run.start w0)).w.tls u = 0 := by
  apply Classical.byContradiction
  intro hne
  obtain ⟨op, hop, hk, _⟩ := C12_active_only_in_activator c hT W w0 h0 sched u hne
  have := hno op (List.mem_of_mem_take hop)
  exact hk.elim this.1 this.2

/-- `active_stack()` in thread `t` reports exactly `t`'s thread-local pointer. -/
theorem C12_active_stack_reports_own_pointer (c : Cfg) (hT : c.stackPtrTLS = true) (t a : Nat) (w : World) :
    ((step c t ⟨.readActive, a⟩ w).priv t).out = w.tls t :: (w.priv t).out := by
  simp [step, getPtr, hT, modPriv]

/-- A step of one thread changes neither what another thread owns nor the other thread's pointer. -/
theorem C12_step_leaves_other_threads (c : Cfg) (t u : Nat) (op : Op) (w : World) (h : u ≠ t) :
    (step c t op w).priv u = w.priv u ∧ (step c t op w).tls u = w.tls u :=
  ⟨congrArg Prod.snd (step_other c op w h), congrArg Prod.fst (step_other c op w h)⟩

/-! ### The model distinguishes the configurations (what the tree looked like before the repair of F-16, and what a
process-wide stack pointer would do) -/

/-- F-16 as found: with plain `Index` counters the hypothesis fails, and two threads that each create one array race. -/
theorem C12_sensitivity_plain_counters_race :
    ¬ NoPlainConflict { cfgDefault with countersAtomic := false } c12Kinds ∧
    Races 0 ⟨.shared .nStorageCreated, .write, .plain⟩ 1 ⟨.shared .nStorageCreated, .write, .plain⟩ ∧
    (⟨.shared .nStorageCreated, .write, .plain⟩ : Access) ∈ footprint { cfgDefault with countersAtomic := false } .newArray := by
  exact ⟨plain_counters_conflict rfl (by decide), ⟨by decide, rfl, Or.inl rfl, Or.inl rfl⟩, newArray_plain_write rfl⟩

/-- With a process-wide stack pointer the hypothesis fails, and there is a two-thread schedule after which thread 0 does
    NOT see what it sees alone (its constructor throws stack_already_active and its statement goes to the other
    thread's stack). -/
theorem C12_sensitivity_global_pointer_interferes :
    ¬ Isolated { cfgDefault with stackPtrTLS := false } c12Kinds ∧
    (let c : Cfg := { cfgDefault with stackPtrTLS := false }
     let W : Workload := fun t => if t = 0 then [⟨.newStack, 0⟩, ⟨.record, 5⟩, ⟨.differentiate, 0⟩]
                                  else if t = 1 then [⟨.newStack, 1⟩, ⟨.deactivate, 1⟩] else []
     ((exec c W [1, 0, 0, 0] (Run.start World.init)).w.priv 0).out ≠ ((solo c 0 (W 0) World.init).priv 0).out) := by
  refine ⟨by decide, by decide⟩

/-! ### The Stack constructor under allocation faults -/

/-- The order of the constructor's steps in the working tree (regenerated from Stack.h on every run) is the order the
    model calls `codeOrder`: allocate (`initialize`), `new_recording`, and only then `activate`. -/
theorem C12_ctor_order_generated : Ctor.generatedOrder = some Ctor.codeOrder := by decide

/-- FAILED CONSTRUCTION LEAVES THE THREAD'S POINTER ALONE.  For the code's order, whatever the thread's pointer `cur` was,
    whatever stack number is being constructed, activating or not, and WHATEVER step faults (`faultAt` ranges over all
    naturals: any of the three steps, or none): if the constructor exits by an exception (injected fault, or
    stack_already_active from `activate`) the thread's active pointer is exactly what it was before.  In particular a thread
    that owned no active stack still has `active_stack() == 0` after `new Stack` threw std::bad_alloc. -/
theorem C12_failed_ctor_pointer_unchanged (sid cur faultAt : Nat) (act : Bool) :
    let r := Ctor.construct Ctor.codeOrder sid act faultAt cur
    r.failed = true → r.ptr = cur := by
  simp only [Ctor.construct, Ctor.codeOrder, Ctor.crun]
  -- activation is last: failed, it has not assigned; the two steps before it never assign
  intro hf
  exact (Ctor.cstep_failed_ptr _ _ _ _ _ hf).trans
    ((Ctor.cstep_ptr _ _ _ _ (by decide)).trans (Ctor.cstep_ptr _ _ _ _ (by decide)))

/-- non-vacuity: the fault in each of the three steps does make the construction fail (and the pointer stays 0) -/
example : (Ctor.construct Ctor.codeOrder 1 true 0 0) = ⟨0, true⟩ ∧ (Ctor.construct Ctor.codeOrder 1 true 1 0) = ⟨0, true⟩ ∧
    (Ctor.construct Ctor.codeOrder 1 true 2 0) = ⟨0, true⟩ ∧ (Ctor.construct Ctor.codeOrder 2 true 9 1) = ⟨1, true⟩ := by decide

/-- ... and the thread can go on: after a failed construction in a thread without an active stack, the next constructor
    (any stack number, no fault) succeeds and its object is the thread's active stack. -/
theorem C12_stack_constructible_after_failed_ctor (sid sid' faultAt : Nat) (act : Bool) :
    let r := Ctor.construct Ctor.codeOrder sid act faultAt 0
    r.failed = true →
    Ctor.construct Ctor.codeOrder sid' true 3 r.ptr = ⟨sid', false⟩ := by
  intro r hf
  have h := C12_failed_ctor_pointer_unchanged sid 0 faultAt act hf
  show Ctor.construct Ctor.codeOrder sid' true 3 r.ptr = ⟨sid', false⟩
  rw [h]
  simp [Ctor.construct, Ctor.codeOrder, Ctor.crun, Ctor.cstep]

example : (Ctor.construct Ctor.codeOrder 1 true 0 0).failed = true := by decide

/-- REFUTATION of the swapped order (activate before allocating): a thread without an active stack constructs stack 0
    (pointer value 1) and the allocation step faults: the constructor has failed — the object does not exist — yet the thread's
    pointer designates it; the thread's next constructor then fails with stack_already_active although no fault is injected. -/
theorem C12_swapped_ctor_order_dangles :
    Ctor.construct Ctor.swappedOrder 1 true 1 0 = ⟨1, true⟩ ∧
    (Ctor.construct Ctor.swappedOrder 2 true 3 (Ctor.construct Ctor.swappedOrder 1 true 1 0).ptr).failed = true := by decide

/-! ### Non-vacuity: a concrete three-thread workload of C12 kinds (two threads with stacks, scalars and arrays, one
stack-less sampler), a concrete schedule, and what the theorems say about it. -/

def exampleW : Workload := fun t =>
  if t = 0 then [⟨.newStack, 0⟩, ⟨.newArray, 0⟩, ⟨.record, 3⟩, ⟨.record, 4⟩, ⟨.differentiate, 0⟩, ⟨.readActive, 0⟩,
                 ⟨.deleteArray, 0⟩, ⟨.destroyStack, 0⟩]
  else if t = 1 then [⟨.newStack, 1⟩, ⟨.record, 9⟩, ⟨.newArray, 0⟩, ⟨.viewOwn, 0⟩, ⟨.differentiate, 0⟩, ⟨.deleteArray, 0⟩]
  else if t = 2 then [⟨.readActive, 0⟩, ⟨.readActive, 0⟩]
  else []

example : UsesOnly exampleW c12Kinds := by
  intro t op h
  unfold exampleW at h
  split at h
  · revert op
    decide
  split at h
  · revert op
    decide
  split at h
  · revert op
    decide
  · cases h

/-- the interleaved run: both stacks active in their own threads, the sampler saw 0 twice, counters 2 created / 1 deleted -/
example :
    let r := exec cfgDefault exampleW [0, 1, 2, 1, 0, 0, 1, 1, 0, 2, 0, 1, 0, 0] (Run.start World.init)
    r.w.tls 0 = 1 ∧ r.w.tls 1 = 2 ∧ r.w.tls 2 = 0 ∧ (r.w.priv 2).out = [0, 0] ∧
      (r.w.priv 0).out = (( solo cfgDefault 0 ((exampleW 0).take 7) World.init).priv 0).out ∧
      r.w.sh .nStorageCreated = 2 ∧ r.w.sh .nStorageDeleted = 1 := by decide +kernel

end Adept.Threads
