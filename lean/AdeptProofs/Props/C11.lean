import AdeptProofs.Lemmas.History
import AdeptProofs.Lemmas.MisuseStack
import AdeptProofs.Lemmas.MisuseArr
/-!
# C11 — misuse is reported by the documented exception, never by memory corruption

Each theorem: this misuse ⇒ exactly this exception, and the state is the one the caller had.  First the stack protocol
(`AdeptModel/StackProto.lean`), then arrays.

Stack protocol: operations return `Except Exc …`, a failing operation returns *no* new state and the caller keeps the one it had
(`stepOp` in `Lemmas/MisuseStack.lean` is that convention written out); the one exception is `St.seed`, which
returns the state explicitly because `Stack::set_gradients` initialises the working vector *before* its range test.
-/
namespace Adept.StackProto
open Adept.Tape Adept.GradAlloc

/-- A derivative pass before any seed has been set since the last `clear_gradients`/`new_recording` raises
    `gradients_not_initialized`, forward and reverse, and the state is the one the caller had. -/
theorem C11_pass_before_seed (s : St) (h : s.gradInit = false) :
    s.forward = .error .gradients_not_initialized ∧ s.reverse = .error .gradients_not_initialized ∧
    stepOp s .fwd = (s, .error .gradients_not_initialized) ∧ stepOp s .rev = (s, .error .gradients_not_initialized) := by
  simp [St.forward, St.reverse, stepOp, h]

/-- Reading a gradient before any seed raises `gradients_not_initialized` (whatever the index). -/
theorem C11_get_before_seed (s : St) (idx : Nat) (h : s.gradInit = false) :
    s.getGrad idx = .error .gradients_not_initialized ∧ stepOp s (.get idx) = (s, .error .gradients_not_initialized) := by
  simp [St.getGrad, stepOp, h]

/-- An object created after the first seed whose gradient index lies beyond the vector that was allocated at that
    first seed: seeding it raises `gradient_out_of_range` and returns the state unchanged (in particular `grad`);
    reading it raises the same exception.  The index is compared with the *allocated* length `grad.length`,
    not with `max_gradient_`, which has grown with the registration. -/
theorem C11_created_after_seed (s : St) (idx : Nat) (v : Int) (hi : s.gradInit = true) (h : idx + 1 > s.grad.length) :
    s.seed idx v = (s, some .gradient_out_of_range) ∧ s.getGrad idx = .error .gradient_out_of_range := by
  rw [seed_of_init s idx v hi]
  simp [St.getGrad, hi, h]

/-- The same misuse committed as the very first seed: the only change is the documented lazy initialisation of the
    working vector (`initialize_gradients`, all zeros, length `max_gradient_`), nothing is written into it. -/
theorem C11_created_after_seed_first (s : St) (idx : Nat) (v : Int) (hi : s.gradInit = false) (h : idx + 1 > s.ga.maxGrad) :
    s.seed idx v = (s.initGradients, some .gradient_out_of_range) ∧
    s.initGradients.grad = List.replicate s.ga.maxGrad 0 := by
  rw [seed_of_not_init s idx v hi, seed_of_init _ idx v (initGradients_gradInit s), initGradients_length]
  simp [h, initGradients_grad]

/-- Whenever a seed fails, it fails with `gradient_out_of_range` and the state is the given one, up to that
    lazy initialisation. -/
theorem C11_seed_failure_shape (s s' : St) (idx : Nat) (v : Int) (e : Exc) (h : s.seed idx v = (s', some e)) :
    s' = (if s.gradInit then s else s.initGradients) ∧ e = .gradient_out_of_range :=
  seed_fail_state s idx v e s' h

/-- A pass requested while objects registered after the first seed make `max_gradient_` exceed the allocated
    vector raises `gradient_out_of_range` instead of sweeping over statements whose indices lie beyond it. -/
theorem C11_pass_after_creation (s : St) (hi : s.gradInit = true) (h : s.ga.maxGrad > s.grad.length) :
    s.forward = .error .gradient_out_of_range ∧ s.reverse = .error .gradient_out_of_range ∧
    stepOp s .fwd = (s, .error .gradient_out_of_range) ∧ stepOp s .rev = (s, .error .gradient_out_of_range) := by
  simp [St.forward, St.reverse, stepOp, hi, h]

/-- A Jacobian requested while the independents or the dependents have not been identified raises
    `dependents_or_independents_not_identified`, in the raw-pointer form and (with a target of the right,
    i.e. degenerate, size) in the matrix form. -/
theorem C11_jacobian_no_lists (s : St) (mode : JMode) (dO iO : Int) (nc : Nat) (fill : Int)
    (h : s.indep = [] ∨ s.dep = []) :
    s.jacPtr mode dO iO nc fill = .error .dependents_or_independents_not_identified ∧
    s.jacMat mode s.dep.length s.indep.length = .error .dependents_or_independents_not_identified := by
  have hb : (s.indep.isEmpty || s.dep.isEmpty) = true := by
    cases h with
    | inl h => simp [h]
    | inr h => simp [h]
  constructor
  · unfold St.jacPtr; rw [if_pos hb]
  · unfold St.jacMat St.jacPtr; simp [hb]

/-- A Jacobian requested into a matrix whose extents are not (number of dependents) × (number of independents)
    raises `size_mismatch` — too large as well as too small — before anything is computed or written. -/
theorem C11_jacobian_wrong_size (s : St) (mode : JMode) (rows cols : Nat)
    (h : rows ≠ s.dep.length ∨ cols ≠ s.indep.length) :
    s.jacMat mode rows cols = .error .size_mismatch ∧ stepOp s (.jacMat mode rows cols) = (s, .error .size_mismatch) := by
  have hb : (rows ≠ s.dep.length || cols ≠ s.indep.length) = true := by
    cases h with
    | inl h => simp [h]
    | inr h => simp [h]
  simp only [stepOp]
  unfold St.jacMat
  rw [if_pos hb]
  exact ⟨rfl, rfl⟩

/-- Jacobian requests never change the protocol state, whether they fail or not. -/
theorem C11_jacobian_pure (s : St) (mode : JMode) (dO iO : Int) (nc : Nat) (fill : Int) (rows cols : Nat) :
    (stepOp s (.jacPtr mode dO iO nc fill)).1 = s ∧ (stepOp s (.jacMat mode rows cols)).1 = s := ⟨rfl, rfl⟩

/-- `append_derivative_dependence` on a variable that is not the left-hand side of the most recent statement
    (or when only the null statement is on the stack) raises `wrong_gradient` and leaves the recording untouched:
    no operation has been pushed. -/
theorem C11_append_wrong_lhs (s : St) (lhs x : Nat) (m : Int) (hr : s.isRecording = true)
    (h : ∀ last, s.tape.getLast? = some last → last.lhs ≠ lhs) :
    s.appendDependence lhs x m = .error .wrong_gradient ∧ stepOp s (.append lhs x m) = (s, .error .wrong_gradient) := by
  have e := (append_dependence s lhs x m hr).2 h
  simp [stepOp, e]

/-- A second activating `Stack` in a thread that already has an active one: `stack_already_active`, and the
    state of the first stack is untouched (the model has no other outcome for this operation). -/
theorem C11_second_stack (s : St) : stepOp s .stack2 = (s, .error .stack_already_active) := rfl

/-- No wild access.  (1) `initialize_gradients` allocates exactly `max_gradient_` entries.  (2) A seed that succeeds
    wrote at an index below the allocated length of the vector it wrote to, and did not change that length.
    (3) A read that succeeds used an index below the allocated length.  (4) A pass that is performed runs over a
    vector at least `max_gradient_` long; hence, if every index recorded on the tape is below `max_gradient_`
    (the invariant of recording, C08/C10), every index the sweep touches is below the allocated length. -/
theorem C11_no_wild_access (s : St) :
    s.initGradients.grad.length = s.ga.maxGrad ∧
    (∀ idx v s', s.seed idx v = (s', none) →
        idx < s'.grad.length ∧ s'.grad.length = (if s.gradInit then s.grad.length else s.ga.maxGrad)) ∧
    (∀ idx g, s.getGrad idx = .ok g → idx < s.grad.length ∧ g = s.grad.getD idx 0) ∧
    (∀ s', (s.forward = .ok s' ∨ s.reverse = .ok s') →
        s.ga.maxGrad ≤ s.grad.length ∧ (TapeBelow s.tape s.ga.maxGrad → TapeBelow s.tape s.grad.length)) := by
  refine ⟨initGradients_length s, ?_, ?_, ?_⟩
  · intro idx v s' h
    rw [seed_eq] at h
    by_cases hg : idx + 1 > (if s.gradInit then s else s.initGradients).grad.length
    · rw [if_pos hg] at h
      cases h
    · rw [if_neg hg] at h
      cases h
      refine ⟨by simp only [List.length_set]; omega, ?_⟩
      cases s.gradInit
      · exact (List.length_set ..).trans (initGradients_length s)
      · exact List.length_set ..
  · intro idx g h
    unfold St.getGrad at h
    split at h
    · cases h
    · split at h
      · cases h
      · cases h
        exact ⟨by omega, rfl⟩
  · intro s' h
    have hle := pass_ok_le s s' h
    exact ⟨hle, fun ht => ht.mono hle⟩

/-- Usable after.  Run any history of these operations from any state; remove from it every operation that failed
    (a failing *first* seed stays: its lazy initialisation is its documented effect).  The shortened history ends in
    the same state and every remaining operation shows exactly what it showed in the full history: nothing of a
    failed operation leaks into later results. -/
theorem C11_usable_after (s : St) (ops : List POp) :
    run s (dropFailed s ops) = runKept s ops ∧ (runKept s ops).1 = (run s ops).1 :=
  History.usable_after stepOp dropped run runKept dropFailed (run_nil := fun _ => rfl) (run_cons := fun _ _ _ => rfl)
    (kept_nil := fun _ => rfl) (kept_cons := fun _ _ _ => rfl) (drop_nil := fun _ => rfl) (drop_cons := fun _ _ _ => rfl)
    (hdrop := dropped_state) s ops

/-- Each removed operation had handed back exactly the state it was given. -/
theorem C11_failed_unchanged (s : St) (o : POp) (h : dropped s o = true) : (stepOp s o).1 = s :=
  dropped_state s o h

/-- When the vector is long enough for everything registered, an initialised stack performs the passes. -/
theorem C11_pass_ok (s : St) (hi : s.gradInit = true) (h : s.ga.maxGrad ≤ s.grad.length) :
    s.forward = .ok { s with grad := fwd s.tape s.grad } ∧ s.reverse = .ok { s with grad := rev s.tape s.grad } := by
  have : ¬ (s.ga.maxGrad > s.grad.length) := by omega
  simp [St.forward, St.reverse, hi, this]

/-! Non-vacuity: states satisfying the hypotheses exist. -/
example : ∃ s : St, s.gradInit = true ∧ (0 : Nat) + 1 > s.grad.length := ⟨{ gradInit := true }, rfl, by decide⟩
example : ∃ s : St, s.gradInit = true ∧ s.ga.maxGrad > s.grad.length :=
  ⟨{ gradInit := true, ga := { stackInit with maxGrad := 3 } }, rfl, by decide⟩
example : ∃ s : St, s.isRecording = true ∧ ∀ last, s.tape.getLast? = some last → last.lhs ≠ 7 :=
  ⟨{}, rfl, by intro last h; simp at h⟩
example : ∃ (s : St) (o : POp), dropped s o = true := ⟨{}, .fwd, by decide⟩
example : ∃ s : St, s.gradInit = true ∧ s.ga.maxGrad ≤ s.grad.length ∧ TapeBelow s.tape s.ga.maxGrad :=
  ⟨{ gradInit := true, grad := [0, 0, 0] }, rfl, by decide, by intro st h; simp at h⟩

/-- RANGE READS (`Stack::get_gradients(start, end_plus_one, out[, src_stride, target_stride])`, what `Array::get_gradient`
    calls for an active array or a strided view of one).  Before any seed: `gradients_not_initialized`.  A range whose SPAN
    — one past the LAST element touched, `start + (n-1)*stride + 1`, not the number of elements — reaches beyond the vector
    that was allocated at the first seed (an active array created after it) raises `gradient_out_of_range`.  A read that
    completes touched only cells below the allocated length and returns exactly their contents, in order. -/
theorem C11_range_get (s : St) (start n ss : Nat) :
    (s.gradInit = false → s.getRange start n ss = .error .gradients_not_initialized) ∧
    (s.gradInit = true → rangeEnd start n ss > s.grad.length → s.getRange start n ss = .error .gradient_out_of_range) ∧
    (∀ gs, s.getRange start n ss = .ok gs →
        gs.length = n ∧ ∀ j, j < n → start + j * ss < s.grad.length ∧ gs.getD j 0 = s.grad.getD (start + j * ss) 0) := by
  refine ⟨fun h => by simp [St.getRange, h], fun h h2 => by simp [St.getRange, h, h2], ?_⟩
  intro gs h
  unfold St.getRange at h
  split at h
  · cases h
  · split at h
    · cases h
    · rename_i hle
      cases h
      refine ⟨by simp, fun j hj => ⟨?_, ?_⟩⟩
      · have hm := Nat.mul_le_mul_right ss (show j ≤ n - 1 by omega)
        have hn : n ≠ 0 := by omega
        simp only [rangeEnd, hn, if_false] at hle
        omega
      · simp [List.getD_eq_getElem?_getD, List.getElem?_map, List.getElem?_range hj]

/-- RANGE WRITES (`Stack::set_gradients(start, start+n, values)`): the lazy initialisation comes first (as for one element);
    a range that reaches beyond the allocated vector raises `gradient_out_of_range` and writes nothing; a write that completes
    changed exactly the cells `start … start+n-1`, all below the allocated length. -/
theorem C11_range_set (s : St) (start : Nat) (vs : List Int) :
    (start + vs.length > (if s.gradInit then s else s.initGradients).grad.length →
        s.setRange start vs = ((if s.gradInit then s else s.initGradients), some .gradient_out_of_range)) ∧
    (start + vs.length ≤ (if s.gradInit then s else s.initGradients).grad.length →
        ∃ s', s.setRange start vs = (s', none) ∧
          s'.grad.length = (if s.gradInit then s else s.initGradients).grad.length ∧
          (∀ i, i < start ∨ start + vs.length ≤ i →
              s'.grad.getD i 0 = (if s.gradInit then s else s.initGradients).grad.getD i 0) ∧
          (∀ j, j < vs.length → s'.grad.getD (start + j) 0 = vs.getD j 0)) := by
  refine ⟨fun h => by simp [St.setRange, h], fun h => ?_⟩
  have hn : ¬ (start + vs.length > (if s.gradInit then s else s.initGradients).grad.length) := by omega
  refine ⟨{ (if s.gradInit then s else s.initGradients) with
             grad := writeFrom (if s.gradInit then s else s.initGradients).grad start vs }, ?_, ?_, ?_, ?_⟩
  · simp only [St.setRange, hn, if_false]
  · simp [writeFrom_length]
  · intro i hi; exact writeFrom_outside _ _ _ _ hi
  · intro j hj; exact writeFrom_inside _ _ _ _ hj h

/-! Non-vacuity: a late 3-element array at indices 2,3,4 behind a vector of 4 cells: the strided read of cells 2 and 4
(two elements, separation 2) is refused although `2 + 2 ≤ 4`; the contiguous read of cells 2,3 is served. -/
example : ({ gradInit := true, grad := [5, 6, 7, 8] } : St).getRange 2 2 2 = .error .gradient_out_of_range ∧
    ({ gradInit := true, grad := [5, 6, 7, 8] } : St).getRange 2 2 1 = .ok [7, 8] ∧
    (({ gradInit := true, grad := [5, 6, 7, 8] } : St).setRange 1 [1, 2]).1.grad = [5, 1, 2, 8] := by decide

end Adept.StackProto

/-!
Arrays, over `AdeptModel/Misuse.lean`.  `step s op = (s, .error e)` says both things at once:
the operation raises `e`, and the pool (every array, the target included) is the one it was given.
-/
namespace Adept.Misuse

/-- `resize` with a negative extent raises `invalid_dimension` and leaves the array intact (its old extents *and* its
    old data): the integer form validates every extent, the `ExpressionSize` / `resize_row_major` /
    `resize_column_major` form every extent up to the first zero. -/
theorem C11_arr_negative_extent_resize (s : State) (k : Nat) (seed : Int) (dims : List Int) (t : Arr)
    (hk : s.get? k = some t) (hr : dims.length = t.rank) :
    (dims.any (· < 0) = true → step s (.resize k seed dims) = (s, .error .invalid_dimension)) ∧
    (NegFirst dims → step s (.resized k seed dims) = (s, .error .invalid_dimension)) := by
  constructor
  · intro h
    dsimp only [step]
    simp only [hk, if_pos hr, resizeInt_neg t seed h, commit]
  · intro h
    dsimp only [step]
    simp only [hk, if_pos hr, resizeDims_neg t seed h, commit]

/-- An element-wise expression whose two operands have different extents raises `size_mismatch` when it is
    assigned — to any target, empty or not, even one of the operands — and nothing is modified. -/
theorem C11_arr_expr_mismatch (s : State) (k i j : Nat) (op : BinOp) (t x y : Arr)
    (hk : s.get? k = some t) (hi : s.get? i = some x) (hj : s.get? j = some y)
    (hkind : (t.sameKind x && t.sameKind y) = true) (h : x.dims ≠ y.dims) :
    step s (.asg k i op j) = (s, .error .size_mismatch) := by
  dsimp only [step]
  simp only [hk, hi, hj, hkind, if_true, exprDims_ne h, assign, commit]

/-- Assigning a valid expression (or another array) to a non-empty array of different extents raises
    `size_mismatch`; the target keeps its extents and its data. -/
theorem C11_arr_assign_mismatch (s : State) (k i j : Nat) (op : BinOp) (t x y : Arr)
    (hk : s.get? k = some t) (hi : s.get? i = some x) (hj : s.get? j = some y)
    (hkx : t.sameKind x = true) (hky : t.sameKind y = true) (hxy : x.dims = y.dims)
    (hne : t.isEmpty = false) (h : x.dims ≠ t.dims) :
    step s (.asg k i op j) = (s, .error .size_mismatch) ∧ step s (.cp k i) = (s, .error .size_mismatch) := by
  constructor
  · dsimp only [step]
    simp only [hk, hi, hj, hkx, hky, Bool.and_self, if_true, exprDims_eq hxy, assign_ne _ hne h, commit]
  · dsimp only [step]
    simp only [hk, hi, hkx, if_true, assign_ne _ hne h, commit]

/-- `a op= b` with operands of different extents raises `size_mismatch` (it is `a = noalias(a op b)`). -/
theorem C11_arr_compound_mismatch (s : State) (k i : Nat) (op : BinOp) (t x : Arr)
    (hk : s.get? k = some t) (hi : s.get? i = some x) (hkx : t.sameKind x = true) (h : t.dims ≠ x.dims) :
    step s (.comp k op i) = (s, .error .size_mismatch) := by
  dsimp only [step]
  simp only [hk, hi, hkx, if_true, exprDims_ne h, assign, commit]

/-- `a.where(mask) = b` with a mask or a right-hand side whose extents differ from the target's raises
    `size_mismatch`; the target is unchanged. -/
theorem C11_arr_where_mismatch (s : State) (k m i : Nat) (t mk x : Arr)
    (hk : s.get? k = some t) (hm : s.get? m = some mk) (hi : s.get? i = some x)
    (hkind : (t.sameKind x && t.rank == mk.rank) = true) (h : mk.dims ≠ t.dims ∨ x.dims ≠ t.dims) :
    step s (.whr k m i) = (s, .error .size_mismatch) := by
  dsimp only [step]
  simp only [hk, hm, hi, hkind, if_true, whereAssign_mismatch h, commit]

/-- Filling an empty array with `<<` raises `empty_array`, whatever is on the right; nothing changes. -/
theorem C11_arr_fill_empty (s : State) (k : Nat) (items : List Item) (t : Arr) (ps : List Piece)
    (hk : s.get? k = some t) (hres : resolve s t.rank items = some ps) (hps : ps ≠ []) (he : t.isEmpty = true) :
    step s (.fill k items) = (s, .error .empty_array) := by
  have hf : fill t ps = (t, some .empty_array) := by
    unfold fill
    rw [if_pos he]
  dsimp only [step]
  simp only [hk, hres, if_neg hps, hf, if_true]

/-- Over-filling with scalars, for every size.  A vector of length `n` (a matrix of `R × C`) takes the first `n`
    (`R·C`) values in row-major order; one value more raises `index_out_of_bounds`, and exactly the documented partial
    effect remains: the elements written before the exception stay written (all of them, here).  With at most as many
    values as elements there is no exception and the remaining elements keep their old values. -/
theorem C11_arr_fill_overflow (t : Arr) (vs : List Int) :
    (∀ n, t.dims = [n] → 0 < n → t.vals.length = n →
      fill t (vs.map Piece.s) =
        if vs.length ≤ n then ({ t with vals := vs ++ t.vals.drop vs.length }, none)
        else ({ t with vals := vs.take n }, some .index_out_of_bounds)) ∧
    (∀ R C, t.dims = [R, C] → 0 < R → 0 < C → t.vals.length = R * C →
      fill t (vs.map Piece.s) =
        if vs.length ≤ R * C then ({ t with vals := vs ++ t.vals.drop vs.length }, none)
        else ({ t with vals := vs.take (R * C) }, some .index_out_of_bounds)) := by
  -- both targets take the values as the vector of their elements does
  let f : List Int × Option Err → Arr × Option Err := fun p => ({ t with vals := p.1 }, p.2)
  have hvec := (congrArg f (al1Run_scalars_zero t.vals vs)).trans (apply_ite f _ _ _)
  constructor
  · intro n hd hn hl
    have hne : t.isEmpty = false := by simp [Arr.isEmpty, hd]; omega
    subst hl
    simp only [fill, hne, hd, Bool.false_eq_true, if_false]
    rw [← hd]
    exact hvec
  · intro R C hd hR hC hl
    have hne : t.isEmpty = false := by simp [Arr.isEmpty, hd]; omega
    have h2 := al2Run_scalars R C hC vs ⟨t.vals, 0, 0, 0⟩ ⟨Nat.zero_le _, hR, Or.inl rfl, hl⟩
    rw [show pos2 C ⟨t.vals, 0, 0, 0⟩ = 0 by simp [pos2], ← hl] at h2
    simp only [fill, hne, hd, Bool.false_eq_true, if_false]
    rw [← hl, (Prod.mk.inj h2).1, (Prod.mk.inj h2).2, ← hd]
    exact hvec

/-- Over-filling with array-valued objects (`v << w << w`).  (1) An object that does not fit from the current position
    raises `index_out_of_bounds` and stores nothing — vector target; (2) matrix target, object too wide or too tall.
    (3) Whatever the pieces, a piece that fails leaves the elements written so far exactly as they are, and (4)–(5) on a
    well-formed target the *only* exception a `<<` chain can end with is `index_out_of_bounds`: in particular no store
    ever goes outside the target (`Err.wild`, the modelled fault, does not occur). -/
theorem C11_arr_fill_object_overflow :
    (∀ (n : Nat) (al : Al1) (x : Arr), x.isEmpty = false → al.c + x.vals.length > n →
        al1Step n al (.a x) = (al, some .index_out_of_bounds)) ∧
    (∀ (R C : Nat) (al : Al2) (x : Arr), x.isEmpty = false → al.c < C → (al.c = 0 ∨ al.obj = (Piece.a x).shape.lead) →
        (((Piece.a x).shape.mat = true ∧ al.r + (Piece.a x).shape.p > R) ∨ al.c + (Piece.a x).shape.q > C) →
        al2Step R C al (.a x) = (al, some .index_out_of_bounds)) ∧
    (∀ (n R C : Nat) (a1 : Al1) (a2 : Al2) (p : Piece) (e : Err),
        ((al1Step n a1 p).2 = some e → (al1Step n a1 p).1 = a1) ∧
        ((al2Step R C a2 p).2 = some e → (al2Step R C a2 p).1 = a2)) ∧
    (∀ (n : Nat) (ps : List Piece) (vals : List Int) (e : Err), vals.length = n →
        (al1Run n ⟨vals, 0⟩ ps).2 = some e → e = .index_out_of_bounds) ∧
    (∀ (R C : Nat) (ps : List Piece) (vals : List Int) (e : Err), 0 < R → 0 < C → vals.length = R * C →
        (al2Run R C ⟨vals, 0, 0, 0⟩ ps).2 = some e → e = .index_out_of_bounds) := by
  refine ⟨?_, ?_, ?_, ?_, ?_⟩
  · intro n al x hx hfit
    by_cases hc : al.c ≥ n
    · simp [al1Step, hx, hc]
    · simp [al1Step, hx, hc, hfit]
  · intro R C al x hx hc hlead hfit
    have hc' : ¬ al.c ≥ C := by omega
    have hsc : (Piece.a x).shape.scalar = false := by
      simp only [Piece.shape]; split <;> rfl
    simp only [al2Step, hx, Bool.false_eq_true, if_false, al2Put, al2Place, hsc, hc']
    have h1 : ¬ (al.c ≠ 0 ∧ al.obj ≠ (Piece.a x).shape.lead) := by
      intro ⟨h1, h2⟩
      cases hlead with
      | inl h => exact h1 h
      | inr h => exact h2 h
    simp only [h1, if_false]
    cases hfit with
    | inl h => simp [h.1, h.2]
    | inr h =>
      by_cases hm : (Piece.a x).shape.mat = true ∧ al.r + (Piece.a x).shape.p > R
      · simp [hm.1, hm.2]
      · simp only [hm, if_false, h, if_true]
  · intro n R C a1 a2 p e
    exact ⟨fun h => (al1Step_fail n a1 p e h).1, fun h => (al2Step_fail R C a2 p e h).1⟩
  · intro n ps vals e hl h
    exact (al1Run_err n ps ⟨vals, 0⟩ hl).2 e h
  · intro R C ps vals e hR hC hl h
    exact (al2Run_err R C hC ps ⟨vals, 0, 0, 0⟩ hl hR).2 e h

/-- `diag_vector`, `submatrix_on_diagonal` and `inv` on a matrix that is not square raise `invalid_operation`
    (for every offset / range argument); nothing changes. -/
theorem C11_arr_not_square (s : State) (k : Nat) (t : Arr) (R C : Nat) (hk : s.get? k = some t)
    (hd : t.dims = [R, C]) (hR : 0 < R) (h : R ≠ C) :
    (∀ o, step s (.diag k o) = (s, .error .invalid_operation)) ∧
    (∀ ib ie, step s (.subdiag k ib ie) = (s, .error .invalid_operation)) ∧
    (t.dbl = true → step s (.inv k) = (s, .error .invalid_operation)) := by
  have hrank : t.rank = 2 := congrArg List.length hd
  refine ⟨fun o => ?_, fun ib ie => ?_, fun hdbl => ?_⟩
  · dsimp only [step]
    simp only [hk, if_pos hrank, diagVector_not_square o hd hR h, viewRes]
  · dsimp only [step]
    simp only [hk, if_pos hrank, subDiag_not_square ib ie hd h, viewRes]
  · dsimp only [step]
    simp [hk, hrank, hdbl, invMat, hd, h, viewRes]

/-- Linking to an empty array raises `empty_array`; the would-be link keeps its own data (it is not cleared first). -/
theorem C11_arr_link_empty (s : State) (k i : Nat) (t x : Arr) (hk : s.get? k = some t) (hi : s.get? i = some x)
    (hkx : t.sameKind x = true) (h : x.isEmpty = true) :
    step s (.link k i) = (s, .error .empty_array) := by
  dsimp only [step]
  simp only [hk, hi, hkx, if_true, h]

/-- A matrix product with an empty operand raises `empty_array` — also when the inner extents disagree as well: the
    emptiness test comes first — and the target is unchanged. -/
theorem C11_arr_matmul_empty (s : State) (k i j : Nat) (t x y : Arr)
    (hk : s.get? k = some t) (hi : s.get? i = some x) (hj : s.get? j = some y)
    (hkind : (t.dbl && x.dbl && y.dbl && decide (x.rank + y.rank > 2) && decide (x.rank ≤ 2) && decide (y.rank ≤ 2)
        && decide (1 ≤ x.rank) && decide (1 ≤ y.rank) && t.rank + 2 == x.rank + y.rank) = true)
    (h : x.isEmpty = true ∨ y.isEmpty = true) :
    matmulDims x y = .error .empty_array ∧ step s (.matmul k i j) = (s, .error .empty_array) := by
  have hd : matmulDims x y = .error .empty_array := by
    unfold matmulDims
    cases h with
    | inl h => simp [h]
    | inr h => simp [h]
  refine ⟨hd, ?_⟩
  dsimp only [step]
  simp only [hk, hi, hj, hkind, if_true, hd]

/-- A matrix product of non-empty operands whose inner extents disagree raises `inner_dimension_mismatch`, in all
    three operand forms (matrix·vector, matrix·matrix, vector·matrix). -/
theorem C11_arr_matmul_inner (x y : Arr) (m k k' n : Nat) (hk : k ≠ k')
    (hx : x.isEmpty = false) (hy : y.isEmpty = false) :
    (x.dims = [m, k] → y.dims = [k'] → matmulDims x y = .error .inner_dimension_mismatch) ∧
    (x.dims = [m, k] → y.dims = [k', n] → matmulDims x y = .error .inner_dimension_mismatch) ∧
    (x.dims = [k] → y.dims = [k', n] → matmulDims x y = .error .inner_dimension_mismatch) := by
  refine ⟨?_, ?_, ?_⟩ <;> intro h1 h2 <;> simp [matmulDims, h1, h2, hx, hy, hk]

/-- … and the operation as a whole hands the pool back untouched. -/
theorem C11_arr_matmul_inner_step (s : State) (k i j : Nat) (t x y : Arr)
    (hk : s.get? k = some t) (hi : s.get? i = some x) (hj : s.get? j = some y)
    (hd : matmulDims x y = .error .inner_dimension_mismatch) :
    step s (.matmul k i j) = (s, .error .inner_dimension_mismatch) ∨ step s (.matmul k i j) = (s, .error .bad) := by
  dsimp only [step]
  simp only [hk, hi, hj, hd]
  split
  · exact Or.inl rfl
  · exact Or.inr rfl

/-- `permute` of a matrix with anything but a permutation of (0, 1): a missing argument, an index out of range or a
    repeated index raise `invalid_dimension`; an empty array raises `empty_array`.  Never a view. -/
theorem C11_arr_permute_invalid (t : Arr) (p0 p1 : Int) (h : ¬ ((p0 = 0 ∧ p1 = 1) ∨ (p0 = 1 ∧ p1 = 0))) :
    permute2 t p0 p1 = .error .invalid_dimension ∨ (t.isEmpty = true ∧ permute2 t p0 p1 = .error .empty_array) := by
  unfold permute2
  by_cases h1 : p0 = -1 ∨ p1 = -1
  · simp [h1]
  · by_cases he : t.isEmpty = true
    · simp [h1, he]
    · by_cases h2 : (0 ≤ p0 ∧ p0 < 2 ∧ 0 ≤ p1 ∧ p1 < 2)
      · have h3 : p0 = p1 := by omega
        simp [he, h2, h3]
      · simp [h1, he, h2]

/-- With `ADEPT_BOUNDS_CHECKING`, an element access with an index outside `0 … n−1` in some dimension raises
    `index_out_of_bounds` (and reads nothing). -/
theorem C11_arr_index_out_of_bounds (s : State) (k : Nat) (t : Arr) (idx : List Int) (hk : s.get? k = some t)
    (hb : s.bounds = true) (hl : idx.length = t.rank)
    (h : ((List.zip idx t.dims).all fun p => decide (0 ≤ p.1) && decide (p.1 < (p.2 : Int))) = false) :
    step s (.get k idx) = (s, .error .index_out_of_bounds) := by
  dsimp only [step]
  simp only [hk, if_pos hl, getElem, h, hb]
  rfl

/-- Views that would have a negative extent raise `invalid_dimension` instead of being returned: a reversed range,
    a diagonal beyond the last one, a reshape to negative extents (or to extents whose product is not the length). -/
theorem C11_arr_view_invalid (t : Arr) :
    (∀ (bnd : Bool) (b e : Int) (n : Nat), t.dims = [n] → 0 ≤ b → b < n → 0 ≤ e → e < n → e - b + 1 < 0 →
        rangeView bnd t b e = .error .invalid_dimension) ∧
    (∀ (n : Nat) (o : Int), t.dims = [n, n] → 0 < n → (o > n ∨ o < -(n : Int)) →
        diagVector t o = .error .invalid_dimension) ∧
    (∀ (r c : Int), (r * c ≠ (t.dims.getD 0 0 : Int) ∨ r < 0 ∨ c < 0) → reshape2 t r c = .error .invalid_dimension) := by
  refine ⟨?_, ?_, ?_⟩
  · intro bnd b e n hd h1 h2 h3 h4 h5
    simp [rangeView, hd, h1, h2, h3, h4, h5]
  · intro n o hd hn ho
    have hne : t.isEmpty = false := by simp [Arr.isEmpty, hd]; omega
    simp only [diagVector, hne, hd, Bool.false_eq_true, if_false]
    simp only [List.getD_cons_zero, List.getD_cons_succ, ne_eq, not_true_eq_false, if_false]
    have : (if o ≥ 0 then min (n : Int) ((n : Int) - o) else min ((n : Int) + o) n) < 0 := by
      split <;> omega
    simp [this]
  · intro r c h
    unfold reshape2
    by_cases h1 : r * c ≠ (t.dims.getD 0 0 : Int)
    · rw [if_pos h1]
    · rw [if_neg h1, if_pos (h.resolve_left h1)]

/-- No wild access.  (1)–(2) A `<<` step on a well-formed target (memory of `n`, resp. `R·C`, elements; current row
    inside the target) never stores outside the allocated memory — the stores are modelled as faulting
    (`writeRunChk`), and the fault is unreachable — and the well-formedness is preserved.  (3) An element read that
    succeeds used indices inside the extents. -/
theorem C11_arr_no_wild_access :
    (∀ (n : Nat) (al : Al1) (p : Piece), al.vals.length = n →
        (al1Step n al p).2 ≠ some .wild ∧ (al1Step n al p).1.vals.length = n) ∧
    (∀ (R C : Nat) (al : Al2) (p : Piece), 0 < C → al.vals.length = R * C → al.r < R →
        (al2Step R C al p).2 ≠ some .wild ∧ (al2Step R C al p).1.vals.length = R * C ∧ (al2Step R C al p).1.r < R) ∧
    (∀ (b : Bool) (t : Arr) (idx : List Int) (x : Int), getElem b t idx = .ok x →
        ∀ p ∈ List.zip idx t.dims, 0 ≤ p.1 ∧ p.1 < (p.2 : Int)) := by
  refine ⟨fun n al p hl => al1Step_no_wild n al p hl, fun R C al p hC hl hr => al2Step_no_wild R C hC al p hl hr, ?_⟩
  intro b t idx x h p hp
  unfold getElem at h
  by_cases hin : ((List.zip idx t.dims).all fun p => decide (0 ≤ p.1) && decide (p.1 < (p.2 : Int))) = true
  · rw [List.all_eq_true] at hin
    have := hin p hp
    simpa using this
  · simp only [hin] at h
    cases b <;> simp at h

/-- Negative extents for every rank of the model: a passive array of rank 1 … 4 and an active array of rank 1 or 2 cannot
    be constructed with a negative extent (`invalid_dimension`, pool unchanged), and the `resize` forms of an active
    array refuse one while leaving the array (values, derivative rows, input status) as it was. -/
theorem C11_arr_negative_extent_ranks (s : State) (k : Nat) (seed : Int) (dims : List Int) (h : NegFirst dims) :
    (∀ dbl, 1 ≤ dims.length → dims.length ≤ 4 → step s (.new k dbl seed dims) = (s, .error .invalid_dimension)) ∧
    (dims.length = 1 ∨ dims.length = 2 → step s (.newA k seed dims) = (s, .error .invalid_dimension)) ∧
    (∀ t, s.getA? k = some t → dims.length = t.a.rank →
        step s (.resizedA k seed dims) = (s, .error .invalid_dimension)) ∧
    (∀ t, s.getA? k = some t → dims.length = t.a.rank → dims.any (· < 0) = true →
        step s (.resizeA k seed dims) = (s, .error .invalid_dimension)) := by
  refine ⟨fun dbl h1 h4 => ?_, fun hr => ?_, fun t hk hr => ?_, fun t hk hr hneg => ?_⟩
  · dsimp only [step]
    simp only [if_pos (And.intro h1 h4), newArr_neg dbl seed h, commit]
  · dsimp only [step, step2]
    simp only [if_pos hr, newArr_neg true seed h]
  · dsimp only [step, step2]
    simp only [hk, if_pos hr, resizeDims_neg t.a seed h]
  · dsimp only [step, step2]
    simp only [hk, if_pos hr, resizeInt_neg t.a seed hneg]

/-- Constructing an array with a negative extent (not preceded by a zero extent, which already makes the array the
    empty one) raises `invalid_dimension`; no object comes into being, the pool is unchanged.  Vectors and matrices, all
    extents: the case `dims.length ≤ 2` of `C11_arr_negative_extent_ranks`. -/
theorem C11_arr_negative_extent_new (s : State) (k : Nat) (dbl : Bool) (seed : Int) (dims : List Int)
    (hr : dims.length = 1 ∨ dims.length = 2) (h : NegFirst dims) :
    step s (.new k dbl seed dims) = (s, .error .invalid_dimension) :=
  (C11_arr_negative_extent_ranks s k seed dims h).1 dbl (by omega) (by omega)

/-- A reduction — `sum`, `mean`, `product`, `minval`, `maxval`, `norm2` of `x op y`, `all`, `any`, `count` of `x > y` — whose
    operands have different extents raises `size_mismatch`: over the whole expression for every rank, along a dimension for
    every rank above 1 and *every* value of the dimension argument (the size test comes first), and for rank 1 with the
    only admissible dimension argument 0.  Nothing is modified. -/
theorem C11_arr_reduce_mismatch (s : State) (fn : RedFn) (i j : Nat) (op : BinOp) (x y : Arr)
    (hi : s.get? i = some x) (hj : s.get? j = some y) (hk : x.sameKind y = true) (hok : redOk fn op x = true)
    (h : x.dims ≠ y.dims) :
    step s (.red fn i op j) = (s, .error .size_mismatch) ∧
    (x.rank ≠ 1 → ∀ dim, step s (.redd fn i op j dim) = (s, .error .size_mismatch)) ∧
    (x.rank = 1 → fn.isBool = false → step s (.redd fn i op j 0) = (s, .error .size_mismatch)) := by
  have hkind : ∀ b, (x.sameKind y && redOk fn op x && b) = b := by simp [hk, hok]
  refine ⟨?_, fun hr dim => ?_, fun hr hb => ?_⟩
  · dsimp only [step, step2]
    simp only [hi, hj, hk, hok, Bool.and_self, if_true, exprDims_ne h, reduceWhole]
  · rw [step_redd fn op dim hi hj (by simp [hkind, hr]), exprDims_ne h]
    simp [reduceDim, hr, redRes]
  · rw [step_redd fn op 0 hi hj (by simp [hkind, hb]), exprDims_ne h]
    simp [reduceDim, hr, reduceWhole, redRes]

/-- The dimension argument of a reduction along a dimension.  Rank 1: any argument other than 0 raises
    `invalid_dimension` (whatever the operands).  Rank above 1, consistent non-empty operands: an argument outside
    `0 … rank−1` — negative as well as too large — raises `invalid_dimension`.  Nothing is modified.  (For a negative
    argument the pinned tree overruns a stack buffer instead: reported by the check as a finding.) -/
theorem C11_arr_reduce_dim_invalid (s : State) (fn : RedFn) (i j : Nat) (op : BinOp) (x y : Arr) (dim : Int)
    (hi : s.get? i = some x) (hj : s.get? j = some y) (hk : x.sameKind y = true) (hok : redOk fn op x = true) :
    (x.rank = 1 → fn.isBool = false → dim ≠ 0 → step s (.redd fn i op j dim) = (s, .error .invalid_dimension)) ∧
    (x.rank ≠ 1 → x.dims = y.dims → x.isEmpty = false → (dim < 0 ∨ dim ≥ (x.rank : Int)) →
        step s (.redd fn i op j dim) = (s, .error .invalid_dimension)) := by
  have hkind : ∀ b, (x.sameKind y && redOk fn op x && b) = b := by simp [hk, hok]
  constructor
  · intro hr hb hd
    rw [step_redd fn op dim hi hj (by simp [hkind, hb])]
    simp [reduceDim, hr, hd, redRes]
  · intro hr hxy hne hdim
    have hne' : ¬ x.dims.head?.getD 0 = 0 := by simpa [Arr.isEmpty] using hne
    have hdim' : dim < 0 ∨ (x.rank : Int) ≤ dim := hdim
    rw [step_redd fn op dim hi hj (by simp [hkind, hr]), exprDims_eq hxy]
    simp [reduceDim, hr, redRes, hne', hdim']

/-- What the code does with EMPTY operands (the manual is silent): every whole-array reduction of a valid empty expression
    is 0 — also `all`, `minval`, `maxval` —, a reduction along a dimension is the empty array *whatever* the dimension
    argument (the emptiness test precedes the range test), and `minloc` / `maxloc` answer 0.  No exception, nothing read. -/
theorem C11_arr_reduce_empty (fn : RedFn) (x y : Arr) (op : BinOp) (hxy : x.dims = y.dims) (he : x.isEmpty = true) :
    reduceWhole fn (exprDims x y) (redVals fn op x y) = .ok (.int 0) ∧
    (x.rank ≠ 1 → ∀ dim, reduceDim fn x.rank (exprDims x y) (redVals fn op x y) dim = .ok (.arr (List.replicate (x.rank - 1) 0) [])) ∧
    (x.vals = [] → ∀ isMin, locOp isMin (exprDims x y) (exprVals op x y) = .ok 0) := by
  have he' : y.dims.head?.getD 0 = 0 := by rw [← hxy]; simpa [Arr.isEmpty] using he
  refine ⟨?_, ?_, ?_⟩
  · simp [reduceWhole, exprDims, hxy, he']
  · intro hr dim
    simp [reduceDim, hr, exprDims, hxy, he']
  · intro hv isMin
    simp [locOp, exprDims, hxy, locList, exprVals, hv]

/-- `minloc`, `maxloc`, `find` and `dot_product` applied to vectors of different lengths raise `size_mismatch` (for
    `dot_product` also when one of the two is empty); nothing is modified. -/
theorem C11_arr_loc_mismatch (s : State) (i j : Nat) (x y : Arr) (hi : s.get? i = some x) (hj : s.get? j = some y)
    (hk : (x.sameKind y && x.rank == 1) = true) (h : x.dims ≠ y.dims) :
    (∀ isMin op, step s (.loc isMin i op j) = (s, .error .size_mismatch)) ∧
    step s (.find i j) = (s, .error .size_mismatch) ∧ step s (.dot i j) = (s, .error .size_mismatch) := by
  refine ⟨fun isMin op => ?_, ?_, ?_⟩
  · dsimp only [step, step2]
    simp only [hi, hj, hk, if_true, exprDims_ne h, locOp]
  · dsimp only [step, step2]
    simp [hi, hj, hk, findOp, h, viewRes]
  · dsimp only [step, step2]
    simp [hi, hj, hk, dotOp, exprDims_ne h, reduceWhole]

/-- `outer_product(x + y, z)`, `spread<D>(x + y, n)`, `diag_vector(x + y, o)` and `diag_matrix(x + y)` whose inner operands
    disagree raise `size_mismatch`, whatever the target; so does an outer product with an empty factor (an outer product
    without elements is an invalid expression in the code; the manual names no class for it). -/
theorem C11_arr_expand_mismatch (t x y z : Arr) (D : Nat) (n o : Int) :
    (x.dims ≠ y.dims → outerOp t x y z = .error .size_mismatch ∧ spreadOp t x y D n = .error .size_mismatch ∧
        diagvOp x y o = .error .size_mismatch ∧ diagmOp x y = .error .size_mismatch) ∧
    (x.dims = y.dims → (x.isEmpty = true ∨ z.isEmpty = true) → outerOp t x y z = .error .size_mismatch) := by
  constructor
  · intro h
    simp [outerOp, spreadOp, diagvOp, diagmOp, h]
  · intro hxy he
    have : (x.isEmpty || z.isEmpty) = true := by
      cases he with
      | inl h => simp [h]
      | inr h => simp [h]
    simp [outerOp, hxy, this]

/-- `T = spread<D>(x + y, n)` with consistent operands: a non-empty target of other extents raises `size_mismatch`; an
    empty target is resized to the extents of the expression, and a negative `n` (not preceded by a zero extent) is
    refused by that resize with `invalid_dimension`.  The target is not touched. -/
theorem C11_arr_spread_target (t x y : Arr) (D : Nat) (n : Int) (hxy : x.dims = y.dims) :
    (t.isEmpty = false → spreadDims x D n ≠ t.dims.map Int.ofNat → spreadOp t x y D n = .error .size_mismatch) ∧
    (t.isEmpty = true → NegFirst (spreadDims x D n) → spreadOp t x y D n = .error .invalid_dimension) := by
  constructor
  · intro hne hd
    simp [spreadOp, hxy, hne, hd]
  · intro he hneg
    simp [spreadOp, hxy, he, resizeLoop_neg _ hneg]

/-- … and at the level of the operations the pool is handed back untouched. -/
theorem C11_arr_expand_step (s : State) (k i j z D : Nat) (n o : Int) (e : Err) :
    ((step s (.outer k i j z)).2 = .error e → (step s (.outer k i j z)).1 = s) ∧
    ((step s (.spread k D i j n)).2 = .error e → (step s (.spread k D i j n)).1 = s) ∧
    (step s (.diagv i j o)).1 = s ∧ (step s (.diagm i j)).1 = s := by
  refine ⟨fun h => ?_, fun h => ?_, ?_, ?_⟩
  · exact step_safe s _ (fun _ _ hh => nomatch hh) (fun _ _ _ _ hh => nomatch hh) (by rw [h]; rfl)
  · exact step_safe s _ (fun _ _ hh => nomatch hh) (fun _ _ _ _ hh => nomatch hh) (by rw [h]; rfl)
  · dsimp only [step, step2]
    split
    · split
      · exact viewRes_state _ _
      · rfl
    · rfl
  · dsimp only [step, step2]
    split
    · split
      · exact viewRes_state _ _
      · rfl
    · rfl

/-- `t.where(m1 > m2) = x + y`: a mask whose operands disagree, a mask of other extents than the target, a right-hand side
    whose operands disagree or of other extents than the target — each raises `size_mismatch`, and the target is unchanged. -/
theorem C11_arr_wherex_mismatch (s : State) (k m1 m2 i j : Nat) (t a1 a2 x y : Arr)
    (hk : s.get? k = some t) (h1 : s.get? m1 = some a1) (h2 : s.get? m2 = some a2) (hi : s.get? i = some x)
    (hj : s.get? j = some y) (hkind : (t.sameKind a1 && t.sameKind a2 && t.sameKind x && t.sameKind y) = true)
    (h : a1.dims ≠ a2.dims ∨ a1.dims ≠ t.dims ∨ x.dims ≠ y.dims ∨ x.dims ≠ t.dims) :
    step s (.whrx k m1 m2 i j) = (s, .error .size_mismatch) := by
  dsimp only [step, step2]
  simp only [hk, h1, h2, hi, hj, hkind, if_true, whereExpr_mismatch h, commit]

/-- `t.where(m > 0) = either_or(c, d)`.  A mask of other extents, or a `d` of other extents: `size_mismatch`, nothing
    changed.  A `c` of other extents while mask and `d` fit: `size_mismatch` as well, but the code has by then performed
    the first of its two conditional assignments — the target holds `d` where the mask is false, exactly that and nothing
    else (this partial effect is what the code does; the manual does not mention it). -/
theorem C11_arr_eor_mismatch (s : State) (k m c d : Nat) (t mk cc dd : Arr)
    (hk : s.get? k = some t) (hm : s.get? m = some mk) (hc : s.get? c = some cc) (hd : s.get? d = some dd)
    (hkind : (t.sameKind mk && t.sameKind cc && t.sameKind dd) = true) :
    (mk.dims ≠ t.dims → step s (.eor k m c d) = (s, .error .size_mismatch)) ∧
    (mk.dims = t.dims → dd.dims ≠ t.dims → step s (.eor k m c d) = (s, .error .size_mismatch)) ∧
    (mk.dims = t.dims → dd.dims = t.dims → cc.dims ≠ t.dims → c ≠ k →
      ∃ t1, condAssign t mk dd false = .ok t1 ∧ t1.dims = t.dims ∧
        step s (.eor k m c d) = (if t1 = t then s else s.put k t1, .error .size_mismatch)) := by
  refine ⟨fun h => ?_, fun h1 h2 => ?_, fun h1 h2 h3 hck => ?_⟩
  · have he : eitherOr t mk cc dd (m == k) (c == k) = (t, some .size_mismatch) := by simp [eitherOr, h]
    rw [step_eor_error hk hm hc hd hkind he, if_pos rfl]
  · have he : eitherOr t mk cc dd (m == k) (c == k) = (t, some .size_mismatch) := by
      simp [eitherOr, h1, condAssign, h2]
    rw [step_eor_error hk hm hc hd hkind he, if_pos rfl]
  · have hck' : (c == k) = false := by simpa using hck
    cases hca : condAssign t mk dd false with
    | error e =>
      simp only [condAssign, h2, bne_self_eq_false, Bool.false_eq_true, if_false] at hca
      split at hca <;> simp at hca
    | ok t1 =>
      have hd1 : t1.dims = t.dims := by
        simp only [condAssign, h2, bne_self_eq_false, Bool.false_eq_true, if_false] at hca
        split at hca <;> (simp only [Except.ok.injEq] at hca; subst hca; rfl)
      have h2nd : ∀ mm, condAssign t1 mm cc true = .error .size_mismatch := by
        intro mm; simp [condAssign, hd1, h3]
      refine ⟨t1, rfl, hd1, step_eor_error hk hm hc hd hkind ?_⟩
      simp only [eitherOr, h1, bne_self_eq_false, Bool.false_eq_true, if_false, hca, hck', h2nd]

/-- `solve(A, b)` with a non-square `A` raises `invalid_operation`; with a square `A` and a right-hand side with another
    number of rows, `size_mismatch` (vector and matrix right-hand sides). -/
theorem C11_arr_solve_invalid (a b : Arr) (R C : Nat) (hd : a.dims = [R, C]) :
    (R ≠ C → solveOp a b = .error .invalid_operation) ∧
    (R = C → b.dims.getD 0 0 ≠ R → solveOp a b = .error .size_mismatch) := by
  constructor
  · intro h; simp [solveOp, hd, h]
  · intro h hb
    subst h
    have : ¬ R = b.dims[0]?.getD 0 := fun e => hb (by simpa using e.symm)
    simp [solveOp, hd, this]

/-- SymmMatrix / TridiagMatrix: a negative extent and the two-extent form with different extents are refused with
    `invalid_dimension` by the constructors and by `resize`, before the old data is released: the pool is unchanged. -/
theorem C11_arr_special_resize (s : State) (k : Nat) (seed : Int) (dims : List Int) (c : SCls) (hc : c ≠ .fix)
    (h : (∃ n, dims = [n] ∧ n < 0) ∨ (∃ n m, dims = [n, m] ∧ (n ≠ m ∨ n < 0))) :
    squareExtent dims = .error .invalid_dimension ∧
    step s (.newS k c seed dims) = (s, .error .invalid_dimension) ∧
    (∀ t, s.getS? k = some t → t.cls ≠ .fix → step s (.resizeS k seed dims) = (s, .error .invalid_dimension)) := by
  have hs : squareExtent dims = .error .invalid_dimension := by
    rcases h with ⟨n, rfl, hn⟩ | ⟨n, m, rfl, hnm⟩
    · simp [squareExtent, hn]
    · by_cases e : n = m
      · subst e
        have : n < 0 := hnm.resolve_left (fun h => h rfl)
        simp [squareExtent, this]
      · simp [squareExtent, e]
  have hl : dims.length = 1 ∨ dims.length = 2 := by
    rcases h with ⟨n, rfl, _⟩ | ⟨n, m, rfl, _⟩
    · exact Or.inl rfl
    · exact Or.inr rfl
  refine ⟨hs, ?_, fun t hk ht => ?_⟩
  · cases c with
    | fix => exact absurd rfl hc
    | sym =>
      dsimp only [step, step2]
      simp only [if_pos hl, hs]
    | tri =>
      dsimp only [step, step2]
      simp only [if_pos hl, hs]
  · dsimp only [step, step2]
    simp only [hk, bne_iff_ne.mpr ht, decide_eq_true hl, Bool.and_self, if_true, hs]

/-- Assignment of an expression to a FixedArray, SymmMatrix or TridiagMatrix: an invalid expression (operands of
    different extents, also special matrices of different sizes) raises `size_mismatch`; so does a valid expression of
    other extents than the (non-empty) target; an EMPTY square matrix is resized to the expression and refuses a
    non-square one with `invalid_dimension`.  The target is not touched. -/
theorem C11_arr_special_assign_mismatch (t : SArr) (d : List Nat) (vals : List Int) :
    assignS t none vals = .error .size_mismatch ∧
    (t.a.isEmpty = false → d ≠ t.a.dims → assignS t (some d) vals = .error .size_mismatch) ∧
    (t.cls = .fix → d ≠ t.a.dims → assignS t (some d) vals = .error .size_mismatch) ∧
    (t.cls ≠ .fix → t.a.isEmpty = true → d.getD 0 0 ≠ d.getD 1 0 → assignS t (some d) vals = .error .invalid_dimension) := by
  refine ⟨rfl, ?_, ?_, ?_⟩
  · intro hne hd
    cases hc : t.cls <;> simp [assignS, hc, hne, hd]
  · intro hc hd
    simp [assignS, hc, hd]
  · intro hc he hd
    have hd' : ¬ d[0]?.getD 0 = d[1]?.getD 0 := by simpa using hd
    cases hc' : t.cls with
    | fix => exact absurd hc' hc
    | sym => simp [assignS, hc', he, hd']
    | tri => simp [assignS, hc', he, hd']

/-- … at the level of the operations: element-wise expressions whose operands disagree (two arrays, two special matrices
    of different sizes, a FixedArray next to an array of another size), assigned to a special target or to an array. -/
theorem C11_arr_special_expr_mismatch (s : State) (k i j : Nat) (op : BinOp) :
    (∀ t x y, s.getS? k = some t → specOperand s t i = some x → specOperand s t j = some y →
        (s.get? i).isSome = (s.get? j).isSome → x.dims ≠ y.dims → step s (.asgS k i op j) = (s, .error .size_mismatch)) ∧
    (∀ t x y, s.get? k = some t → s.getS? i = some x → s.getS? j = some y → x.cls ≠ .fix →
        (t.dbl && t.rank == 2 && x.cls == y.cls) = true → x.a.dims ≠ y.a.dims →
        step s (.asgDS k i op j) = (s, .error .size_mismatch)) ∧
    (∀ t x y, s.get? k = some t → s.getS? i = some x → s.get? j = some y → x.cls = .fix →
        (t.dbl && y.dbl && t.rank == x.a.rank && y.rank == x.a.rank) = true → x.a.dims ≠ y.dims →
        step s (.asgDS k i op j) = (s, .error .size_mismatch)) := by
  refine ⟨fun t x y hk hx hy hsame h => ?_, fun t x y hk hx hy hc hkind h => ?_, fun t x y hk hx hy hc hkind h => ?_⟩
  · dsimp only [step, step2]
    simp only [hk, hx, hy, hsame, beq_self_eq_true, if_true, exprDims_ne h, assignS, commitS]
  · dsimp only [step, step2]
    simp only [hk, hx, hy, beq_false_of_ne hc, Bool.false_eq_true, if_false, hkind, if_true, exprDims_ne h, assign, commit]
  · dsimp only [step, step2]
    simp only [hk, hx, hy, hc, beq_self_eq_true, if_true, hkind, exprDims_ne h, assign, commit]

/-- Special objects that need a square or non-empty argument: `diag_vector` / `submatrix_on_diagonal` of the 2 × 3
    FixedArray raise `invalid_operation`; `submatrix_on_diagonal` of a square special matrix with a range outside it
    (in particular: any range on an empty one) raises `index_out_of_bounds`; linking to an empty special matrix raises
    `empty_array`.  Nothing changes. -/
theorem C11_arr_special_not_square (s : State) (k : Nat) (t : SArr) (hk : s.getS? k = some t) :
    (t.cls = .fix → t.a.dims = [2, 3] → (∀ o, step s (.diagF k o) = (s, .error .invalid_operation)) ∧
        ∀ ib ie, step s (.subdiagS k ib ie) = (s, .error .invalid_operation)) ∧
    (∀ n ib ie, t.a.dims = [n, n] → (ib < 0 ∨ ib > ie ∨ ie ≥ (n : Int)) →
        step s (.subdiagS k ib ie) = (s, .error .index_out_of_bounds)) ∧
    (∀ i x, s.getS? i = some x → (t.cls == x.cls && t.cls != .fix) = true → x.a.isEmpty = true →
        step s (.linkS k i) = (s, .error .empty_array)) := by
  refine ⟨fun hc hd => ⟨fun o => ?_, fun ib ie => ?_⟩, fun n ib ie hd hrange => ?_, fun i x hi hkind he => ?_⟩
  · have hr : t.a.rank = 2 := congrArg List.length hd
    dsimp only [step, step2]
    simp only [hk, hc, hr, beq_self_eq_true, Bool.and_self, if_true, diagVector_not_square o hd (by decide) (by decide),
      viewRes]
  · have hr : t.a.rank = 2 := congrArg List.length hd
    dsimp only [step, step2]
    simp only [hk, hr, beq_self_eq_true, if_true, subDiag_not_square ib ie hd (by decide), viewRes]
  · have hr : t.a.rank = 2 := congrArg List.length hd
    dsimp only [step, step2]
    simp [hk, hr, subDiag, hd, hrange, viewRes]
  · dsimp only [step, step2]
    simp only [hk, hi, hkind, if_true, he]

/-- ACTIVE arrays while recording.  An element-wise statement, a compound assignment, a conditional assignment, a
    whole-array reduction and a reduction along a dimension whose operands have different extents raise `size_mismatch`
    and hand back the pool *as a whole*: the values, the derivative rows (the model's picture of what is on the recording)
    and the input status of every active array are those from before the statement. -/
theorem C11_arr_active_mismatch (s : State) (k i j : Nat) (op : BinOp) (t x y : AArr)
    (hk : s.getA? k = some t) (hi : s.getA? i = some x) (hj : s.getA? j = some y) (h : x.a.dims ≠ y.a.dims) :
    ((t.a.sameKind x.a && t.a.sameKind y.a) = true → step s (.asgA k i op j) = (s, .error .size_mismatch)) ∧
    (∀ fn, (x.a.sameKind y.a && isNumFn fn && op != .sub) = true → step s (.reda k fn i op j) = (s, .error .size_mismatch)) ∧
    (∀ fn dim, (t.a.rank == 1 && x.a.rank == 2 && y.a.rank == 2 && isIntFn fn && op == .add) = true →
        step s (.redda k fn i op j dim) = (s, .error .size_mismatch)) ∧
    (∀ o, (t.a.rank == 1 && x.a.rank == 2 && y.a.rank == 2) = true → step s (.diagva k i j o) = (s, .error .size_mismatch)) := by
  refine ⟨fun hkind => ?_, fun fn hkind => ?_, fun fn dim hkind => ?_, fun o hkind => ?_⟩
  · dsimp only [step, step2]
    simp only [hk, hi, hj, hkind, if_true, exprDims_ne h, assignA, assign, commitA]
  · dsimp only [step, step2]
    simp only [hk, hi, hj, hkind, if_true, exprDims_ne h, reduceWholeA]
  · dsimp only [step, step2]
    simp only [hk, hi, hj, hkind, if_true, exprDims_ne h, reduceDimA]
  · dsimp only [step, step2]
    simp [hk, hi, hj, hkind, diagvOp, h]

/-- … assignment of an active array, or of an expression, to a non-empty active array of other extents; a conditional
    assignment with a mask or a right-hand side of other extents; a reduction along a dimension outside `0, 1`. -/
theorem C11_arr_active_target_mismatch (s : State) (k i : Nat) (t x : AArr)
    (hk : s.getA? k = some t) (hi : s.getA? i = some x) (hkind : t.a.sameKind x.a = true) :
    (t.a.isEmpty = false → x.a.dims ≠ t.a.dims → step s (.cpA k i) = (s, .error .size_mismatch) ∧
        ∀ op, step s (.compA k op i) = (s, .error .size_mismatch)) ∧
    (∀ m mk, s.getA? m = some mk → t.a.sameKind mk.a = true → (mk.a.dims ≠ t.a.dims ∨ x.a.dims ≠ t.a.dims) →
        step s (.whrA k m i) = (s, .error .size_mismatch)) ∧
    (∀ fn j y dim, s.getA? j = some y → (t.a.rank == 1 && x.a.rank == 2 && y.a.rank == 2 && isIntFn fn) = true →
        x.a.dims = y.a.dims → x.a.isEmpty = false → (dim < 0 ∨ dim ≥ 2) →
        step s (.redda k fn i .add j dim) = (s, .error .invalid_dimension)) := by
  refine ⟨fun hne hd => ⟨?_, fun op => ?_⟩, fun m mk hm hkm h => ?_, fun fn j y dim hj hk2 hxy hne hdim => ?_⟩
  · dsimp only [step, step2]
    simp only [hk, hi, hkind, if_true, assignA, assign_ne _ hne hd, commitA]
  · dsimp only [step, step2]
    simp only [hk, hi, hkind, if_true, exprDims_ne (Ne.symm hd), assignA, assign, commitA]
  · dsimp only [step, step2]
    simp only [hk, hm, hi, hkind, hkm, Bool.and_self, if_true, whereAssignA, whereAssign_mismatch h, commitA]
  · have hne' : ¬ x.a.dims.head?.getD 0 = 0 := by simpa [Arr.isEmpty] using hne
    have hdim' : dim < 0 ∨ (2 : Int) ≤ dim := hdim
    dsimp only [step, step2]
    simp [hk, hi, hj, hk2, exprDims_eq hxy, reduceDimA, hne', hdim']

/-- No wild access in reductions along a dimension and `diag_vector(expression)`.  (1) Every element a reduction along a dimension reads — the `q`-th
    element of the `t`-th strip along `dim`, for a valid `dim` and positive extents — has its flat index inside the memory
    of the operand, for every rank.  (2) So has every element `diag_vector(expression, o)` reads, for every diagonal of an
    `R × C` expression that exists (non-negative length).  (3) A reduction along a dimension that returns an array was
    given a dimension argument inside `0 … rank−1` or an empty operand: no strip is ever formed for another argument. -/
theorem C11_arr_reduce_no_wild_access :
    (∀ (dims : List Nat) (dim t : Nat), dim < dims.length → (∀ d ∈ dims, 0 < d) → ∀ i ∈ stripIdx dims dim t, i < prod dims) ∧
    (∀ (R C : Nat) (o : Int) (len : Nat), (len : Int) ≤ diagLen R C o → ∀ i ∈ diagIdx C o len, i < R * C) ∧
    (∀ (fn : RedFn) (rank : Nat) (d : List Nat) (vals : List Int) (dim : Int) (od : List Nat) (ov : List Num),
        rank ≠ 1 → reduceDim fn rank (some d) vals dim = .ok (.arr od ov) → d.headD 0 = 0 ∨ (0 ≤ dim ∧ dim < (rank : Int))) := by
  refine ⟨?_, ?_, ?_⟩
  · intro dims dim t hd hpos i hi
    unfold stripIdx at hi
    simp only [List.mem_map, List.mem_range] at hi
    obtain ⟨q, hq, rfl⟩ := hi
    apply encode_lt
    apply insert_bounded dims dim _ q hd hq
    apply decode_bounded
    intro d hdm
    exact hpos d (List.mem_of_mem_eraseIdx hdm)
  · intro R C o len hlen i hi
    unfold diagIdx at hi
    simp only [List.mem_map, List.mem_range] at hi
    obtain ⟨j, hj, rfl⟩ := hi
    unfold diagLen at hlen
    by_cases ho : o ≥ 0
    · simp only [ho, if_true] at hlen ⊢
      rw [Nat.add_assoc]
      exact flat_lt (by omega) (by omega)
    · simp only [ho, if_false] at hlen ⊢
      exact flat_lt (by omega) (by omega)
  · intro fn rank d vals dim od ov hr h
    unfold reduceDim at h
    rw [if_neg hr] at h
    simp only at h
    by_cases he : (d.headD 0 == 0) = true
    · exact Or.inl (by simpa using he)
    · rw [if_neg he] at h
      by_cases hd : dim < 0 ∨ dim ≥ (rank : Int)
      · rw [if_pos hd] at h; cases h
      · exact Or.inr (by omega)

/-- Usable after.  Run any history of array operations (all kinds: passive arrays of rank 1–4, FixedArray / SymmMatrix /
    TridiagMatrix objects, active arrays inside a recording) from any pool; remove every operation that failed and left
    the pool as it was.  The shortened history ends in the same pool and every remaining operation shows exactly what it
    showed in the full history.  And every failing operation other than `<<` and `where(m) = either_or(c, d)` *is* such an
    operation: it handed back the pool it was given (a failing `<<` keeps what it had written: the documented partial
    effect; `either_or` is two conditional assignments, the first of which stays when the second is refused:
    `C11_arr_eor_mismatch`). -/
theorem C11_arr_usable_after (s : State) (ops : List Op) :
    run s (dropFailed s ops) = runKept s ops ∧ (runKept s ops).1 = (run s ops).1 ∧
    (∀ (s' : State) (o : Op), (step s' o).2.failed = true → (∀ k items, o ≠ .fill k items) →
      (∀ k m c d, o ≠ .eor k m c d) → (step s' o).1 = s') :=
  have h := History.usable_after step dropped run runKept dropFailed (run_nil := fun _ => rfl) (run_cons := fun _ _ _ => rfl)
    (kept_nil := fun _ => rfl) (kept_cons := fun _ _ _ => rfl) (drop_nil := fun _ => rfl) (drop_cons := fun _ _ _ => rfl)
    (hdrop := dropped_state) s ops
  ⟨h.1, h.2, fun s' o hf hfill heor => step_safe s' o hfill heor hf⟩

/-- A failed statement leaves no trace on a later derivative pass: after any failing operation other than `<<` and
    `either_or`, every Jacobian request (`jac k i`, of the elements of any active array with respect to any input array)
    answers exactly what it would have answered had the failing operation never been issued. -/
theorem C11_arr_active_failed_jac (s : State) (o : Op) (hf : (step s o).2.failed = true)
    (hfill : ∀ k items, o ≠ .fill k items) (heor : ∀ k m c d, o ≠ .eor k m c d) (k i : Nat) :
    step (step s o).1 (.jac k i) = step s (.jac k i) := by
  rw [step_safe s o hfill heor hf]

/-! Non-vacuity of the hypotheses. -/
example : NegFirst [3, -1] := by simp [NegFirst]
example : ∃ (s : State) (o : Op), dropped s o = true := ⟨{}, .clear 0, by decide⟩
example : ∃ al : Al2, Inv2 2 3 al := ⟨⟨List.replicate 6 0, 0, 0, 0⟩, by simp, by simp, Or.inl rfl, by simp⟩
example : ∃ (x : Arr), x.isEmpty = false ∧ (Piece.a x).shape.mat = true ∧ (0 : Nat) + (Piece.a x).shape.p > 1 :=
  ⟨⟨true, [2, 2], [1, 2, 3, 4]⟩, by decide, by decide, by decide⟩

/-- a pool with two vectors of different lengths, a matrix, a symmetric matrix and two active vectors -/
def demoPool : State :=
  { arrs := [(0, ⟨true, [3], [1, 2, 3]⟩), (1, ⟨true, [4], [1, 2, 3, 4]⟩), (2, ⟨true, [2, 3], [1, 2, 3, 4, 5, 6]⟩),
             (3, ⟨true, [3, 2], [1, 2, 3, 4, 5, 6]⟩)],
    specs := [(8, ⟨.sym, ⟨true, [2, 2], [1, 2, 2, 3]⟩⟩), (9, ⟨.fix, ⟨true, [2, 3], [1, 2, 3, 4, 5, 6]⟩⟩)],
    acts := [(12, { a := ⟨true, [2], [1, 2]⟩, der := [[], []] }), (13, { a := ⟨true, [3], [1, 2, 3]⟩, der := [[], [], []] })] }

example : step demoPool (.red .sum 0 .add 1) = (demoPool, .error .size_mismatch) := rfl
example : step demoPool (.redd .maxval 2 .mul 3 1) = (demoPool, .error .size_mismatch) := rfl
example : step demoPool (.redd .sum 2 .add 2 (-1)) = (demoPool, .error .invalid_dimension) := rfl
example : step demoPool (.redd .sum 2 .add 2 1) = (demoPool, .ok (.nview [2] [.int 12, .int 30])) := rfl
example : step demoPool (.asgA 12 12 .mul 13) = (demoPool, .error .size_mismatch) := rfl
example : step demoPool (.asgS 8 2 .add 2) = (demoPool, .error .size_mismatch) := rfl
example : step demoPool (.diagF 9 0) = (demoPool, .error .invalid_operation) := rfl
example : step demoPool (.resizeS 8 0 [-1]) = (demoPool, .error .invalid_dimension) := rfl
example : ∃ (s : State) (o : Op), (step s o).2.failed = true ∧ (∀ k items, o ≠ .fill k items) ∧ (∀ k m c d, o ≠ .eor k m c d) :=
  ⟨demoPool, .red .sum 0 .add 1, (by decide), (by intro _ _ h; cases h), (by intro _ _ _ _ h; cases h)⟩
example : NegFirst (spreadDims ⟨true, [3], [1, 2, 3]⟩ 1 (-2)) := by simp [spreadDims, NegFirst]
example : (2 : Int) ≤ diagLen 2 3 1 := by decide
example : ∀ d ∈ [2, 3, 4], 0 < d := by decide

end Adept.Misuse
