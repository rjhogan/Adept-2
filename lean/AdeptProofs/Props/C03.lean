import AdeptProofs.Lemmas.ArrayADReduce
/-!
# C03 — array-statement derivatives match those of the equivalent scalar loops

Stated over `AdeptModel/ArrayAD.lean`.  `record` functions (`assignActive`, `assignPassive`, `assignScalar`, `assign`,
`whereAssign`, `eitherOr`, `idxAssign`, `reduceAll`, `reduceDimLit`, `diagVector`) transcribe the C++ loops; `denote…` is the
element-by-element scalar program, in index order, that the statement stands for; `runProg` runs a scalar program with
the scalar recording rules (`elemStep`: operations of the right-hand side, `push_lhs`, store).  A state is the memory
(values) together with the tape, so an equality of states is an equality of values AND of recorded statements.
All theorems are for arbitrary rank, extents, strides of either sign (zero strides = spread / outer_product),
offsets, expression trees, memory contents and earlier recordings.
-/
namespace Adept.ArrayAD
open Adept.Tape

section Elementwise
variable {R : Type} [Zero R] [Add R] [Sub R] [Mul R] [Div R] [Neg R] [One R] [LT R] [DecidableLT R]

/-- **Element-wise assignment of an active expression** (`T = expr`, `T op= expr`, any tree of `+ − * /`, unary minus,
    `noalias`, Array / view / FixedArray / adouble / integer-vector-indexed leaves, spread and outer_product as
    zero-stride leaves): the loop of `assign_expression_` — target traversed with `advance_index`, every leaf
    positioned by `set_location_` per row and stepped by `advance_location_` or, in the contiguous branch, by
    `++index` — records exactly the statements, and stores exactly the values, of the scalar loop
    `for p in index order: T[p] = expr[p]`. -/
theorem C03_record_eq_denote_assign (t : View) (e : AExpr R) (ht : TargetOK t)
    (hw : e.WF t.dims.length (t.rdims.headD 0)) (s : St R) :
    assignActive t e s = runProg s (denoteAssign t e) := by
  rw [denoteAssign, runProg_map]
  refine rowsLoop_view Eq t ht _ (fun s ri => runS s ⟨none, t.cellAt ri, e.at ri⟩) ?_ s s rfl
  rintro s _ ri rfl
  rw [assignRow_eq t e _ hw]
  simp only [View.cellAt_cons, runS_none]

/-- **Passive right-hand side** (`T = P`, `T = P*Q`, `T = c`): the `push_lhs_range` path, which pushes a whole row of
    left-hand sides before storing the row's values, records the same statements (one without operations per
    element, in index order, also for negative strides) and stores the same values as the scalar loop. -/
theorem C03_record_eq_denote_passive (t : View) (e : AExpr R) (ht : TargetOK t)
    (hw : e.WF t.dims.length (t.rdims.headD 0)) (s : St R) (g0 : Nat)
    (hsto : (s.mem.sto? t.sid).map (·.gbase) = some g0) (hpass : e.isActive s.mem.isActive = false) :
    assignPassive t e s = runProg s (denoteAssign t e) := by
  rw [denoteAssign, runProg_map]
  refine (rowsLoop_view (fun a b => a = b ∧ a.mem.isActive = s.mem.isActive ∧
      (a.mem.sto? t.sid).map (·.gbase) = some g0)
    t ht _ (fun s ri => runS s ⟨none, t.cellAt ri, e.at ri⟩) ?_ s s ⟨rfl, rfl, hsto⟩).1
  rintro a _ ri ⟨rfl, ha1, ha2⟩
  obtain ⟨r1, r2, r3⟩ := assignPassiveRow_eq t e _ hw a ri _ g0 ha2 (ha1 ▸ hpass)
  refine ⟨?_, r2.trans ha1, r3⟩
  rw [r1]
  simp only [View.cellAt_cons, runS_none]

/-- **Active scalar broadcast** (`T = s`, `s` an adouble): every element records `d T[p] = 1·d s`. -/
theorem C03_record_eq_denote_scalar (t : View) (c : Cell) (ht : TargetOK t) (s : St R) :
    assignScalar t c s = runProg s (denoteAssign t (.arr ⟨c.1, c.2, [], []⟩)) := by
  rw [denoteAssign, runProg_map]
  refine rowsLoop_view Eq t ht _ (fun s ri => runS s ⟨none, t.cellAt ri, (AExpr.arr ⟨c.1, c.2, [], []⟩).at ri⟩)
    ?_ s s rfl
  rintro s _ ri rfl
  rw [assignScalarRow_eq]
  simp only [View.cellAt_cons, runS_none, AExpr.at, View.rstrides, List.reverse_nil, dotR_nil_right, Int.add_zero]

/-- **The statement `T = expr` as `Array::operator=` runs it** when the alias test does not fire: the active or the
    passive loop is chosen by the activeness of the expression; either way the scalar loop. -/
theorem C03_assign_statement (t : View) (e : AExpr R) (ht : TargetOK t) (hw : e.WF t.dims.length (t.rdims.headD 0))
    (s : St R) (tmpSid tmpG W g0 : Nat) (hsto : (s.mem.sto? t.sid).map (·.gbase) = some g0)
    (hal : e.aliased t = false) :
    assign t e tmpSid tmpG W s = runProg s (denoteAssign t e) := by
  unfold assign assignNoAliasCheck
  simp only [hal, Bool.false_eq_true, if_false]
  split
  · exact C03_record_eq_denote_assign t e ht hw s
  · rename_i h
    exact C03_record_eq_denote_passive t e ht hw s g0 hsto (by simpa using h)

/-- … and when it fires: the expression is first assigned to a packed temporary `copy` (itself the scalar loop
    `copy[p] = expr[p]`), then `T[p] = copy[p]`; the temporary is dropped afterwards. -/
theorem C03_assign_statement_aliased (t : View) (e : AExpr R) (ht : TargetOK t)
    (hw : e.WF t.dims.length (t.rdims.headD 0)) (s : St R) (tmpSid tmpG W : Nat)
    (hact : e.isActive s.mem.isActive = true) (hal : e.aliased t = true) :
    assign t e tmpSid tmpG W s =
      (let tv := (tempView tmpSid t.dims W).1
       let s0 : St R := { s with mem := s.mem ++ [(tmpSid, ⟨tmpG, true, List.replicate (tempView tmpSid t.dims W).2 0⟩)] }
       let s2 := runProg (runProg s0 (denoteAssign tv e)) (denoteAssign t (.arr tv))
       { s2 with mem := s2.mem.filter (·.1 ≠ tmpSid) }) := by
  have hd := tempView_dims tmpSid t.dims W
  have htv : TargetOK (tempView tmpSid t.dims W).1 :=
    ⟨by rw [hd]; exact ht.rank, by rw [tempView_strides_length, hd], by rw [hd]; exact ht.pos⟩
  have hwv : e.WF (tempView tmpSid t.dims W).1.dims.length ((tempView tmpSid t.dims W).1.rdims.headD 0) := by
    unfold View.rdims; rw [hd]; exact hw
  unfold assign assignNoAliasCheck
  simp only [hal, if_true, hact]
  rw [C03_record_eq_denote_assign _ e htv hwv]
  rw [C03_record_eq_denote_assign t (.arr (tempView tmpSid t.dims W).1) ht
    ⟨htv.lens, Or.inr (by rw [hd])⟩]

/-- **Compound assignment** `T op= expr` is recorded as the assignment of `T op expr` with the target term exempt from
    alias checking; element `p` of that tree is `T[p] op expr[p]`, left operand first — so the tape is that of the
    scalar loop `for p: T[p] = T[p] op expr[p]`. -/
theorem C03_record_eq_denote_compound (t : View) (rhs : AExpr R) (op : AExpr R → AExpr R → AExpr R)
    (hop : op = .add ∨ op = .sub ∨ op = .mul ∨ op = .div) (ht : TargetOK t)
    (hw : rhs.WF t.dims.length (t.rdims.headD 0)) (s : St R) :
    assignActive t (op (.noalias (.arr t)) rhs) s = runProg s (denoteAssign t (op (.noalias (.arr t)) rhs)) ∧
    ∀ ri, ∃ sop : SExpr R → SExpr R → SExpr R, (sop = .add ∨ sop = .sub ∨ sop = .mul ∨ sop = .div) ∧
      (op (.noalias (.arr t)) rhs).at ri = sop (.noalias (.cell (t.cellAt ri))) (rhs.at ri) := by
  have hwt : (AExpr.noalias (AExpr.arr (R := R) t)).WF t.dims.length (t.rdims.headD 0) := ⟨ht.lens, Or.inr rfl⟩
  rcases hop with h | h | h | h <;> subst h
  · have h2 : (AExpr.add (.noalias (.arr t)) rhs).WF t.dims.length (t.rdims.headD 0) := ⟨hwt, hw⟩
    exact ⟨C03_record_eq_denote_assign t _ ht h2 s, fun ri => ⟨.add, Or.inl rfl, rfl⟩⟩
  · have h2 : (AExpr.sub (.noalias (.arr t)) rhs).WF t.dims.length (t.rdims.headD 0) := ⟨hwt, hw⟩
    exact ⟨C03_record_eq_denote_assign t _ ht h2 s, fun ri => ⟨.sub, Or.inr (Or.inl rfl), rfl⟩⟩
  · have h2 : (AExpr.mul (.noalias (.arr t)) rhs).WF t.dims.length (t.rdims.headD 0) := ⟨hwt, hw⟩
    exact ⟨C03_record_eq_denote_assign t _ ht h2 s, fun ri => ⟨.mul, Or.inr (Or.inr (Or.inl rfl)), rfl⟩⟩
  · have h2 : (AExpr.div (.noalias (.arr t)) rhs).WF t.dims.length (t.rdims.headD 0) := ⟨hwt, hw⟩
    exact ⟨C03_record_eq_denote_assign t _ ht h2 s, fun ri => ⟨.div, Or.inr (Or.inr (Or.inr rfl)), rfl⟩⟩

/-- **Element-wise `max`/`fmax`/`min`/`fmin` of two array expressions** (operands of any, DIFFERENT, layouts:
    transposed / strided / reversed / permuted views, an adouble or a passive scalar on either side, nested in any tree).
    (1) the array statement records and stores exactly the scalar loop `for p: T[p] = max(a[p], b[p])`;
    (2) inside the loop, after `set_location_`, the left operand is read at the locations `loc[MyArrayNum …]` and the
    right operand at `loc[MyArrayNum+L::n_arrays …]`, so that the element expression — including the comparison
    `is_left` that decides which operand receives the derivative — is `max (a[i]) (b[i])` with EACH operand at its own
    element `i`, whatever the two memory layouts are. -/
theorem C03_record_eq_denote_maxmin (t : View) (a b : AExpr R) (op : AExpr R → AExpr R → AExpr R)
    (sop : SExpr R → SExpr R → SExpr R) (hop : (op = .max ∧ sop = .max) ∨ (op = .min ∧ sop = .min)) (ht : TargetOK t)
    (ha : a.WF t.dims.length (t.rdims.headD 0)) (hb : b.WF t.dims.length (t.rdims.headD 0)) (s : St R) :
    assignActive t (op a b) s = runProg s (denoteAssign t (op a b)) ∧
    (∀ ri, (op a b).at ri = sop (a.at ri) (b.at ri)) ∧
    (∀ j r, (op a b).atLoc ((op a b).setLoc (j :: r)) = sop (a.at (j :: r)) (b.at (j :: r))) := by
  rcases hop with ⟨h1, h2⟩ | ⟨h1, h2⟩ <;> subst h1 <;> subst h2
  · have hw : (AExpr.max a b).WF t.dims.length (t.rdims.headD 0) := ⟨ha, hb⟩
    exact ⟨C03_record_eq_denote_assign t _ ht hw s, fun _ => rfl,
      fun j r => atLoc_setLoc (AExpr.max a b) _ _ hw j r⟩
  · have hw : (AExpr.min a b).WF t.dims.length (t.rdims.headD 0) := ⟨ha, hb⟩
    exact ⟨C03_record_eq_denote_assign t _ ht hw s, fun _ => rfl,
      fun j r => atLoc_setLoc (AExpr.min a b) _ _ hw j r⟩

/-- **The recording rule of `max`/`min`** (policy classes Max, Min): the operations pushed are exactly those of ONE
    operand, with the incoming multiplier unchanged — for `max` the left operand iff `left > right` (a tie goes to the
    right operand), for `min` the right operand iff `right < left` (a tie goes to the left operand). -/
theorem C03_max_min_rule (m : Mem R) (a b : SExpr R) (w : Option R) :
    (SExpr.max a b).grad m w = (if b.eval m < a.eval m then a.grad m w else b.grad m w) ∧
    (SExpr.min a b).grad m w = (if b.eval m < a.eval m then b.grad m w else a.grad m w) := by
  constructor <;> by_cases h : b.eval m < a.eval m <;> simp [SExpr.grad, h]

/-- **Element-wise `abs`/`fabs`**: the array statement is the scalar loop `for p: T[p] = |expr[p]|`, each element
    recording the operations of its argument scaled by `(x>0)-(x<0)` (ADEPT_DEF_UNARY_FUNC(Abs, …)). -/
theorem C03_record_eq_denote_abs (t : View) (a : AExpr R) (ht : TargetOK t)
    (ha : a.WF t.dims.length (t.rdims.headD 0)) (s : St R) :
    assignActive t (.abs a) s = runProg s (denoteAssign t (.abs a)) ∧
    (∀ ri, (AExpr.abs a).at ri = .abs (a.at ri)) ∧
    (∀ (m : Mem R) (x : SExpr R), (SExpr.abs x).grad m none = x.grad m (some (sgn (x.eval m)))) :=
  ⟨C03_record_eq_denote_assign t (.abs a) ht ha s, fun _ => rfl, fun _ _ => rfl⟩

/-- **Conditional assignment** `T.where(mask) = expr`: for every selected element the statement of ITS right-hand-side
    element is recorded, for the others nothing — whatever the pattern of the mask (the `is_gap` resynchronisation of
    the right-hand side's location, across rows as well): the scalar loop `for p: if mask[p] then T[p] = expr[p]`. -/
theorem C03_record_eq_denote_where (t : View) (k : AMask R) (e : AExpr R) (ht : TargetOK t)
    (hw : e.WF t.dims.length (t.rdims.headD 0)) (hk : k.WF t.dims.length (t.rdims.headD 0)) (s : St R) :
    whereAssign t k e s = runProg s (denoteWhere t k e) := by
  rw [denoteWhere, runProg_map]
  -- `is_gap` is carried from row to row beside the state, and no row's statements depend on it
  refine rowsLoop_view (fun (sg : St R × Bool) x => sg.1 = x) t ht _
    (fun s ri => runS s ⟨some (k.at ri), t.cellAt ri, e.at ri⟩) ?_ (s, false) s rfl
  rintro ⟨s, gap⟩ _ ri rfl
  rw [whereRow_eq t k e _ hw hk]
  simp only [View.cellAt_cons]

/-- `T.where(mask) = either_or(c, d)` (no operand aliased with the target): the loop for `!mask` with `d`, then the
    loop for `mask` with `c`. -/
theorem C03_record_eq_denote_either_or (t : View) (k : AMask R) (c d : AExpr R) (ht : TargetOK t)
    (hc : c.WF t.dims.length (t.rdims.headD 0)) (hd : d.WF t.dims.length (t.rdims.headD 0))
    (hk : k.WF t.dims.length (t.rdims.headD 0)) (s : St R) (tmpSid g1 g2 W : Nat)
    (hca : c.aliased t = false) (hda : d.aliased t = false) :
    eitherOr t k c d tmpSid g1 g2 W s =
      runProg s (denoteWhere t { k with neg := !k.neg } d ++ denoteWhere t k c) := by
  unfold eitherOr whereStmt
  simp only [hca, hda, Bool.false_eq_true, if_false]
  rw [C03_record_eq_denote_where t { k with neg := !k.neg } d ht hd hk, C03_record_eq_denote_where t k c ht hc hk]
  unfold runProg
  rw [List.foldl_append]

set_option linter.unusedVariables false in
/-- **Integer-vector indexed target** `T(ix…) = expr` (active or passive expression, passive scalar, adouble):
    coordinates translated through the index vectors (`translate_coords_`, `get_value_with_len`), repeated indices
    included: the scalar loop `for p in index order of the index vectors: T[ix[p]] = expr[p]`.  (An indexed SOURCE is
    an `idx` leaf of the expression and is covered by every theorem here.) -/
theorem C03_record_eq_denote_indexed (t : View) (rix : List (List Nat)) (e : AExpr R)
    (hrix : rix ≠ []) (hstr : t.strides ≠ []) (hpos : ∀ l ∈ rix, 0 < l.length)
    (hw : e.WF rix.length (rix.headD []).length) (s : St R) :
    idxAssign t rix e s = runProg s (denoteIdx t rix e) := by
  cases rix with
  | nil => exact absurd rfl hrix
  | cons ix0 ixs =>
    rw [denoteIdx, runProg_map]
    refine rowsLoop_sim Eq _ (fun s ri => runS s ⟨none, t.cellAt (xlate (ix0 :: ixs) ri), e.at ri⟩)
      ix0.length (ixs.map (·.length)) 0 ((ixs.map (·.length)).map fun _ => 0) (by simp) ?_ 0 ?_ s s rfl
    · intro d hd
      obtain ⟨l, hl, rfl⟩ := List.mem_map.mp hd
      exact hpos l (List.mem_cons_of_mem _ hl)
    · rintro s _ ri rfl
      rw [idxRow_eq t _ e _ hw]
      rfl

/-- **`diag_vector(expr, k)` of an active rank-2 expression** (any tree, operands of any layout, `k` of either sign,
    non-square extents): the new vector's element `j` records the statement and receives the value of element
    `(j, j+k)` of the expression for `k ≥ 0` and of element `(j-k, j)` for `k < 0` — the scalar loop
    `for j: v[j] = expr[i(j)]` over `min(d0, d1-k)` resp. `min(d0+k, d1)` elements. -/
theorem C03_record_eq_denote_diag_vector (e : AExpr R) (d0 d1 : Nat) (k : Int) (res : View) (dl : Nat)
    (hw : e.WF 2 dl) (s : St R) :
    diagVector e d0 d1 k res s = runProg s (denoteDiag e d0 d1 k res) ∧
    (∀ j, 0 ≤ k → diagIx k j = [j + k.toNat, j]) ∧ (∀ j, k < 0 → diagIx k j = [j, j + (-k).toNat]) ∧
    (0 ≤ k → (diagLen d0 d1 k : Int) = max 0 (min (d0 : Int) (d1 - k))) ∧
    (k < 0 → (diagLen d0 d1 k : Int) = max 0 (min ((d0 : Int) + k) d1)) := by
  refine ⟨?_, ?_, ?_, ?_, ?_⟩
  · unfold diagVector runProg denoteDiag
    rw [List.foldl_map]
    congr 1
    funext s j
    have hix : ∃ a r, diagIx k j = a :: r := by
      unfold diagIx; split <;> exact ⟨_, _, rfl⟩
    obtain ⟨a, r, h⟩ := hix
    rw [h, atLoc_setLoc e 2 dl hw]
    rfl
  · intro j h; simp [diagIx, h]
  · intro j h; simp [diagIx, not_le.mpr h]
  · intro h; simp only [diagLen, ge_iff_le, h, if_true]; omega
  · intro h; simp only [diagLen, ge_iff_le, not_le.mpr h, if_false]; omega

/-- **Values**: every array statement leaves in memory exactly what its scalar program leaves (the element-wise
    families by the state equalities above, the reductions by the first halves of `C03_reduce_jacobian` and
    `C03_reduce_dim_jacobian`). -/
theorem C03_values (t : View) (e : AExpr R) (ht : TargetOK t) (hw : e.WF t.dims.length (t.rdims.headD 0)) (s : St R)
    (k : AMask R) (hk : k.WF t.dims.length (t.rdims.headD 0)) :
    (assignActive t e s).mem = (runProg s (denoteAssign t e)).mem ∧
    (whereAssign t k e s).mem = (runProg s (denoteWhere t k e)).mem := by
  rw [C03_record_eq_denote_assign t e ht hw s, C03_record_eq_denote_where t k e ht hw hk s]
  exact ⟨rfl, rfl⟩

end Elementwise

section Zero
variable {R : Type}

/-- **spread**: `spread<d>(a, n)` is modelled as a view of `a` with one more dimension of stride zero; its element at
    an index with `i` in the spread position is the element of `a` at the index without it (so every theorem above
    applies to expressions containing `spread`). -/
theorem C03_spread_denotes (v : View) (d n : Nat) (a b : List Nat) (i : Nat)
    (ha : a.length = (v.strides.drop d).length) :
    (AExpr.arr (spreadView v d n) : AExpr R).at (a ++ [i] ++ b) = (AExpr.arr v : AExpr R).at (a ++ b) := by
  simp only [AExpr.at, spreadView, View.rstrides, List.reverse_append, List.reverse_cons, List.reverse_nil,
    List.nil_append]
  have hv : v.strides.reverse = (v.strides.drop d).reverse ++ (v.strides.take d).reverse := by
    rw [← List.reverse_append, List.take_append_drop]
  have hl : a.length = (v.strides.drop d).reverse.length := by rw [List.length_reverse]; exact ha
  rw [hv, List.append_assoc a, dotR_append a _ _ _ hl, dotR_append a _ _ _ hl]
  simp only [List.singleton_append, dotR, Int.mul_zero, Int.zero_add]

/-- **outer_product**: `outer_product(a, b)(i, j) = a(i)·b(j)` with the left vector held still along a row and the
    right vector restarted on every row, as two zero-stride views. -/
theorem C03_outer_denotes (a b : View) (sa sb : Int) (ha : a.strides = [sa]) (hb : b.strides = [sb]) (na nb i j : Nat) :
    (AExpr.mul (.arr (outerL a nb)) (.arr (outerR b na)) : AExpr R).at [j, i] =
      .mul ((AExpr.arr a : AExpr R).at [i]) ((AExpr.arr b : AExpr R).at [j]) := by
  simp [AExpr.at, outerL, outerR, View.rstrides, ha, hb, dotR]

end Zero

section Reduce
variable {R : Type} [Field R] [DecidableEq R] [LT R] [DecidableLT R]

/-- **Whole-array reductions** `s = sum|mean|product|minval|maxval(expr)`.  The recorded tape is shaped differently
    from the scalar accumulation loop (sum: ONE statement carrying every element's operations; product: the
    `t·dx + x·dt` statements with the accumulator's operation last; minval/maxval: overwriting statements), but for
    every gradient vector that has a slot for the accumulator the tangent-linear sweeps of the two tapes agree —
    the same Jacobian — and the values agree.  Needs: the accumulator is a live active cell that no element of the
    expression (at the indices of the array) reads or shares a gradient index with (it is a fresh `Active<Type>`). -/
theorem C03_reduce_jacobian (f : RFun) (sc tot : Cell) (e : AExpr R) (rd : List Nat) (hne : rd ≠ [])
    (hpos : ∀ d ∈ rd, 0 < d) (hw : e.WF rd.length (rd.headD 0)) (s : St R) (hc : Clear s.mem tot e (InRange rd)) :
    (reduceAll f sc tot e rd s).mem = (runProg s (denoteReduce f sc tot e rd)).mem ∧
    ∀ g : Vec R, s.mem.gidx tot < g.length →
      fwd (reduceAll f sc tot e rd s).tape g = fwd (runProg s (denoteReduce f sc tot e rd)).tape g := by
  cases rd with
  | nil => exact absurd rfl hne
  | cons dl rd' =>
    rw [reduceAll_eq f sc tot e dl rd' (show AllPos (dl :: rd') from hpos) (by simpa using hw)]
    unfold denoteReduce
    rw [runProg_append]
    have := recordCore_eqv f tot _ (prod (dl :: rd')) s s
      (hc.cond (List.range _) (unflatR (dl :: rd')) fun p hp => InRange.of_lt (List.mem_range.mp hp)) (Eqv.refl _ s)
    exact this.elemStep sc (.cell tot)

/-- **The strip order of `reduce_dimension`**: the C++ keeps the full index `i` and the result index `inew` side by side
    and advances both with its own odometer (last dimension outwards, stepping over the reduced one); transcribed
    literally (`reduceDimLit`: `advStrip`, `stripsLoop`) it takes the strips in index order of the result, every strip
    reading the elements `i = inew with the reduced dimension put back` and writing `result(inew)` — for every rank,
    every position of the reduced dimension and all positive extents. -/
theorem C03_reduce_dim_strip_order (f : RFun) (tot : Cell) (e : AExpr R) (rd : List Nat) (k : Nat) (res : View)
    (hpos : ∀ d ∈ rd, 0 < d) (hk : k < rd.length) (s : St R) :
    reduceDimLit f tot e rd k res s = reduceDim f tot e rd k res s := by
  unfold reduceDimLit reduceDim
  simp only [dropAt_eq]
  have h1 : rd.length = (rd.length - 1) + 1 := by omega
  have hz : zeros rd.length = insertAt (zeros (dropAt rd k).length) k 0 := by
    rw [dropAt_length rd k hk, zeros_insertAt (rd.length - 1) k (by omega), ← h1]
  have hz2 : zeros (rd.length - 1) = zeros (dropAt rd k).length := by rw [dropAt_length rd k hk]
  rw [hz, hz2]
  exact stripsLoop_eq f tot e rd k res (show AllPos rd from hpos) hk s

set_option linter.unusedVariables false in
/-- **Reductions along one dimension** `result = f(expr, dim)` (the transcribed `reduce_dimension`): strip by strip
    (index order of the result), the same statement as above with the accumulator re-initialised by a recorded
    `total = first_value()` and copied into the result element. -/
theorem C03_reduce_dim_jacobian (f : RFun) (tot : Cell) (e : AExpr R) (rd : List Nat) (k : Nat) (res : View)
    (rank dl : Nat) (hr : 0 < rank) (hw : e.WF rank dl) (hpos : ∀ d ∈ rd, 0 < d) (hk : k < rd.length) (s : St R)
    (hc : Clear s.mem tot e (InStrips rd k)) :
    (reduceDimLit f tot e rd k res s).mem = (runProg s (denoteRdim f tot e rd k res)).mem ∧
    ∀ g : Vec R, s.mem.gidx tot < g.length →
      fwd (reduceDimLit f tot e rd k res s).tape g = fwd (runProg s (denoteRdim f tot e rd k res)).tape g := by
  rw [C03_reduce_dim_strip_order f tot e rd k res hpos hk s]
  unfold reduceDim denoteRdim runProg
  simp only [dropAt_eq]
  rw [List.foldl_flatMap]
  refine (List.foldl_rel (r := fun (a b : St R) => Eqv (s.mem.gidx tot) a b ∧ Shape s.mem a.mem)
    ⟨Eqv.refl _ s, Shape.refl _⟩ ?_).1
  · intro p hp a b ⟨he, hs⟩
    have hT : a.mem.gidx tot = s.mem.gidx tot := hs.1 tot
    rw [reduceStrip_eq f tot e k _ res rank dl hw, List.foldl_append]
    have hcore := recordCore_eqv f tot _ (rd.getD k 0) a b
      ((hc.shape hs).cond (List.range _) (fun i => insertAt (unflatR (dropAt rd k) p) k i) fun i hi =>
        InStrips.of_lt (List.mem_range.mp hp) (List.mem_range.mp hi)) (hT ▸ he)
    rw [hT] at hcore
    refine ⟨hcore.elemStep _ _, ?_⟩
    rw [elemStep_mem]
    obtain ⟨v, hv⟩ := recordCore_mem f tot
      ((List.range (rd.getD k 0)).map (fun i => e.at (insertAt (unflatR (dropAt rd k) p) k i))) (rd.getD k 0) a
    rw [hv]
    exact (hs.store tot v).store _ _

end Reduce

section Ordered
variable {R : Type} [Field R] [LinearOrder R] [IsStrictOrderedRing R]

/-- **Values of `max`, `min`, `abs`** over a linearly ordered field: the stored value is the mathematical maximum,
    minimum and absolute value of the operand values, and the factor `abs` puts on its argument's derivative is the
    sign `1`, `-1`, or `0` at `0`. -/
theorem C03_max_min_abs_values (m : Mem R) (a b : SExpr R) :
    (SExpr.max a b).eval m = max (a.eval m) (b.eval m) ∧ (SExpr.min a b).eval m = min (a.eval m) (b.eval m) ∧
    (SExpr.abs a).eval m = |a.eval m| ∧
    (0 < a.eval m → sgn (a.eval m) = 1) ∧ (a.eval m < 0 → sgn (a.eval m) = -1) ∧ (a.eval m = 0 → sgn (a.eval m) = 0) := by
  refine ⟨?_, ?_, ?_, ?_, ?_, ?_⟩
  · simp only [SExpr.eval]
    split
    · rename_i h; exact (max_eq_right (le_of_lt h)).symm
    · rename_i h; exact (max_eq_left (not_lt.mp h)).symm
  · simp only [SExpr.eval]
    split
    · rename_i h; exact (min_eq_left (le_of_lt h)).symm
    · rename_i h; exact (min_eq_right (not_lt.mp h)).symm
  · simp only [SExpr.eval]
    split
    · rename_i h; exact (abs_of_neg h).symm
    · rename_i h; exact (abs_of_nonneg (not_lt.mp h)).symm
  · intro h; simp [sgn, h, not_lt.mpr (le_of_lt h)]
  · intro h; simp [sgn, h, not_lt.mpr (le_of_lt h)]
  · intro h; simp [sgn, h]

end Ordered

/-- `min(A, B.T())` with `A` row-major 2×3 and `B.T()` the transposed view of a row-major 3×2 array (innermost strides
    1 and 2: different layouts) is well-formed for a rank-2 statement -/
example : (AExpr.min (.arr ⟨1, 0, [2, 3], [3, 1]⟩) (.arr ⟨2, 0, [2, 3], [1, 2]⟩) : AExpr Int).WF 2 3 :=
  ⟨⟨rfl, Or.inr rfl⟩, ⟨rfl, Or.inr rfl⟩⟩

/-- … and there the two operands of element (0,1) (innermost index first: `[1, 0]`) sit at DIFFERENT memory offsets:
    1 in `A`, 2 in `B.T()` — each is read at its own -/
example : (AExpr.min (.arr ⟨1, 0, [2, 3], [3, 1]⟩) (.arr ⟨2, 0, [2, 3], [1, 2]⟩) : AExpr Int).at [1, 0] =
    .min (.cell (1, 1)) (.cell (2, 2)) := rfl

/-- the hypotheses of the strip-order theorem hold for a 4×3×2 expression reduced along its middle dimension -/
example : (∀ d ∈ [2, 3, 4], 0 < d) ∧ 1 < [2, 3, 4].length := ⟨by decide, by decide⟩

/-- … and there the odometer really steps over the reduced dimension: from `i = (1, ·, 1)`, `inew = (1, 1)` (innermost
    first `[1, 0, 1]`, `[1, 1]`) the next strip is `i = (2, ·, 0)`, `inew = (2, 0)` -/
example : advStrip [2, 3, 4] 1 [1, 0, 1] [1, 1] = ([0, 0, 2], [0, 2], false) := rfl

/-- the sign factor of `abs` at a positive, a negative and the zero rational -/
example : sgn (3 : ℚ) = 1 ∧ sgn (-2 : ℚ) = -1 ∧ sgn (0 : ℚ) = 0 := by
  refine ⟨?_, ?_, ?_⟩ <;> norm_num [sgn]

/-- a strided, reversed 2×3 view is a legal target -/
example : TargetOK ⟨0, 11, [2, 3], [-6, -2]⟩ := ⟨by decide, by decide, by decide⟩

/-- `A*B + c` over a transposed operand, an adouble and an indexed source is well-formed for a rank-2 statement whose
    innermost extent is 3 -/
example : (AExpr.add (.mul (.arr ⟨1, 0, [2, 3], [1, 2]⟩) (.arr ⟨2, 0, [], []⟩))
    (.idx ⟨3, 0, [4, 4], [4, 1]⟩ [[0, 3, 1], [2, 2]]) : AExpr Int).WF 2 3 :=
  ⟨⟨⟨rfl, Or.inr rfl⟩, ⟨rfl, Or.inl rfl⟩⟩, ⟨rfl, rfl, rfl⟩⟩

/-- the hypotheses of the reduction theorems hold for a fresh accumulator next to a vector of two elements -/
example : Clear (R := ℚ) [(0, ⟨0, true, [1, 2]⟩), (1, ⟨2, true, [0]⟩)] (1, 0) (.arr ⟨0, 0, [2], [1]⟩) (InRange [2]) := by
  refine ⟨⟨⟨2, true, [0]⟩, rfl, by decide, by decide⟩, rfl, ?_⟩
  rintro ri ⟨p, hp, rfl⟩ c hc
  simp only [AExpr.at, SExpr.cellsOf, List.mem_singleton] at hc
  subst hc
  refine ⟨Nat.zero_ne_one, ?_⟩
  show ((0 : Int) + (0 + (((p % 2 : Nat) : Int) * 1 + 0))).toNat ≠ 2
  omega

end Adept.ArrayAD
