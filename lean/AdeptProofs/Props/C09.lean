import AdeptProofs.Lemmas.RecBufSites
/-!
# C09 — recording never writes outside its buffers, whatever their initial size

`AdeptModel/RecBuf.lean` transcribes the bookkeeping of `StackStorageOrig`
(`check_space`, `push_rhs`, `push_lhs`, `push_lhs_range`, the two growth rules, `preallocate_*`);
`AdeptModel/RecBufSites.lean` gives the event stream of each recording site as a function of its sizes, with the
reservation expressions REGENERATED from the source (`Generated/ReserveSites.lean`).  Hook H1 logs the real
event streams; the check (checks/c09.py) compares them with these models and judges every logged stream with
`disciplined`.
-/
namespace Adept.RecBuf
open Sites

/-- `check_space(k)` leaves room for at least `k` more operations (it never shrinks the room that was there),
    loses nothing and writes nothing — for every capacity and fill level. -/
theorem C09_check_reserves (b : B) (k : Nat) (hw : WF b) :
    WF (step b (.check k)).1 ∧ (step b (.check k)).2 = false ∧
    (step b (.check k)).1.nOps = b.nOps ∧ (step b (.check k)).1.nSt = b.nSt ∧
    k ≤ free (step b (.check k)).1 ∧ free b ≤ free (step b (.check k)).1 := by
  obtain ⟨w, nf, hc⟩ := step_check b k hw
  obtain ⟨c1, c2⟩ := step_counts b (.check k)
  exact ⟨w, nf, c1, c2, Nat.le_trans (Nat.le_max_right _ _) hc, Nat.le_trans (Nat.le_max_left _ _) hc⟩

/-- The statement stack grows on demand: `push_lhs` and `push_lhs_range(n)` never write out of range. -/
theorem C09_lhs_safe (b : B) (n : Nat) (hw : WF b) :
    (step b .lhs).2 = false ∧ (step b (.lhsRange n)).2 = false :=
  ⟨(step_spec b .lhs hw (Nat.zero_le _)).2.1, (step_spec b (.lhsRange n) hw (Nat.zero_le _)).2.1⟩

/-- MAIN THEOREM.  An event stream that keeps the reservation discipline (never pushes more operations than
    the largest reservation still outstanding) runs without a single out-of-range write from ANY well-formed
    buffer state — any initial capacity ≥ 1, any fill level, after any amount of earlier growth. -/
theorem C09_disciplined_safe (es : List Ev) (b : B) (hw : WF b) (hd : disciplined 0 es = true) :
    (run b es).2 = false ∧ WF (run b es).1 :=
  disciplined_safe es b 0 hw (Nat.zero_le _) hd

/-- In particular from a fresh stack of any initial length `len ≥ 1`, also after `new_recording`. -/
theorem C09_no_fault_any_capacity (len : Nat) (hl : 0 < len) (es : List Ev) (hd : disciplined 0 es = true) :
    (run (initial len) es).2 = false ∧ (run (newRecording (initial len)) es).2 = false :=
  ⟨(C09_disciplined_safe es _ (initial_WF len hl) hd).1,
   (C09_disciplined_safe es _ (newRecording_WF _ (initial_WF len hl)) hd).1⟩

/-- What is recorded does not depend on the capacity: the number of operations and statements a stream adds is
    the same from every starting state (the contents are the arguments of the pushes, which the buffers do not
    alter; the correspondence check compares the tape dumps across capacities). -/
theorem C09_counts_capacity_independent (es : List Ev) (b₁ b₂ : B) :
    (run b₁ es).1.nOps - b₁.nOps = (run b₂ es).1.nOps - b₂.nOps ∧
    (run b₁ es).1.nSt - b₁.nSt = (run b₂ es).1.nSt - b₂.nSt := by
  obtain ⟨h1, h2⟩ := run_counts es b₁
  obtain ⟨h3, h4⟩ := run_counts es b₂
  rw [h1, h2, h3, h4]
  simp only [Nat.add_sub_cancel_left, and_self]

/-- `preallocate_operations` / `preallocate_statements` record nothing and can only help: a disciplined stream
    stays disciplined wherever such a call is inserted. -/
theorem C09_preallocate_harmless (es₁ es₂ : List Ev) (k : Nat) (f : Nat) (hd : disciplined f (es₁ ++ es₂) = true) :
    disciplined f (es₁ ++ Ev.preOps k :: es₂) = true ∧ disciplined f (es₁ ++ Ev.preSt k :: es₂) = true ∧
    opsOf (Ev.preOps k) = 0 ∧ stmtsOf (Ev.preOps k) = 0 ∧ opsOf (Ev.preSt k) = 0 ∧ stmtsOf (Ev.preSt k) = 0 :=
  ⟨disciplined_insert es₁ es₂ _ f rfl (fun g => Nat.le_max_left g k) hd,
   disciplined_insert es₁ es₂ _ f rfl (fun g => Nat.le_refl g) hd, rfl, rfl, rfl, rfl⟩

/-- `Stack::preallocate_operations(n)` as transcribed from Stack.h (condition `n_allocated_operations_ < n_operations_+n+1`,
    amount of `grow_operation_stack(n)`): from ANY well-formed state it writes nothing, records nothing, never shrinks the buffer,
    and afterwards at least `n` operations can be pushed without a further check. -/
theorem C09_preallocate_operations_room (b : B) (n : Nat) (hw : WF b) :
    WF (step b (.preOps n)).1 ∧ (step b (.preOps n)).2 = false ∧
    (step b (.preOps n)).1.nOps = b.nOps ∧ (step b (.preOps n)).1.nSt = b.nSt ∧
    n ≤ free (step b (.preOps n)).1 ∧ free b ≤ free (step b (.preOps n)).1 := by
  rw [step_preOps_eq]
  exact C09_check_reserves b n hw

/-- `Stack::preallocate_statements(n)` (condition `n_statements_+n+1 >= n_allocated_statements_`, amount of
    `grow_statement_stack(n)`): from ANY well-formed state it writes nothing, records nothing, leaves the operation buffer alone,
    never shrinks the statement buffer, and afterwards the buffer holds the `n` further statements. -/
theorem C09_preallocate_statements_room (b : B) (n : Nat) (hw : WF b) :
    WF (step b (.preSt n)).1 ∧ (step b (.preSt n)).2 = false ∧
    (step b (.preSt n)).1.nOps = b.nOps ∧ (step b (.preSt n)).1.nSt = b.nSt ∧
    (step b (.preSt n)).1.allocOps = b.allocOps ∧
    b.allocSt ≤ (step b (.preSt n)).1.allocSt ∧ b.nSt + n ≤ (step b (.preSt n)).1.allocSt := by
  obtain ⟨w, nf, _⟩ := step_spec b (.preSt n) hw (Nat.zero_le _)
  obtain ⟨c1, c2⟩ := step_counts b (.preSt n)
  have hg := grow_ge b.allocSt n
  have h4 := hw.2.1
  refine ⟨w, nf, c1, c2, ?_⟩
  simp only [step]
  split
  · dsimp only
    omega
  · omega

/-- What a history records does not change when `preallocate_*` calls are inserted anywhere in it: from every starting state
    the stream with the call ends with the same operation and statement counts as the stream without it (the contents are the
    arguments of the pushes; the check compares the tape dumps and the derivatives of both histories). -/
theorem C09_preallocate_same_counts (es₁ es₂ : List Ev) (k : Nat) (b : B) :
    (run b (es₁ ++ Ev.preOps k :: es₂)).1.nOps = (run b (es₁ ++ es₂)).1.nOps ∧
    (run b (es₁ ++ Ev.preOps k :: es₂)).1.nSt = (run b (es₁ ++ es₂)).1.nSt ∧
    (run b (es₁ ++ Ev.preSt k :: es₂)).1.nOps = (run b (es₁ ++ es₂)).1.nOps ∧
    (run b (es₁ ++ Ev.preSt k :: es₂)).1.nSt = (run b (es₁ ++ es₂)).1.nSt := by
  obtain ⟨a1, a2⟩ := run_counts_insert es₁ es₂ (.preOps k) b rfl rfl
  obtain ⟨b1, b2⟩ := run_counts_insert es₁ es₂ (.preSt k) b rfl rfl
  exact ⟨a1, a2, b1, b2⟩

/-- the two calls on a full one-entry buffer (the state after `Stack()` with ADEPT_INITIAL_STACK_LENGTH 1): sizes as the C++ gives -/
example : (step (initial 1) (.preOps 5)).1 = ⟨0, 7, 1, 1⟩ ∧ (step (initial 1) (.preSt 5)).1 = ⟨0, 1, 1, 7⟩ ∧
    (step ⟨3, 8, 2, 8⟩ (.preOps 4)).1 = ⟨3, 8, 2, 8⟩ ∧ (step ⟨3, 8, 2, 8⟩ (.preOps 5)).1 = ⟨3, 16, 2, 8⟩ ∧
    (step ⟨3, 8, 2, 8⟩ (.preSt 5)).1 = ⟨3, 8, 2, 16⟩ ∧ (step ⟨3, 8, 2, 8⟩ (.preSt 4)).1 = ⟨3, 8, 2, 8⟩ := by decide

/-! ## Recording sites: for ALL sizes the stream of each site is disciplined.
The reservation expressions are the regenerated ones, so editing `check_space(…)` in the source re-opens these. -/

/-- scalar statements `x = expr` (constructor, assignment, `A(i) = expr`): `E::n_active` reserved, `n_active` pushed -/
theorem C09_site_scalar (nA f : Nat) :
    disciplined f (siteActiveCtor nA) = true ∧ disciplined f (siteActiveAssign nA) = true ∧
    disciplined f (siteActiveRefAssign nA) = true := by
  obtain ⟨e1, e2, e3⟩ := sites_scalar nA
  rw [e1, e2, e3]
  exact ⟨scalarAssign_ok nA f, scalarAssign_ok nA f, scalarAssign_ok nA f⟩

/-- copy assignments reserve 1 and push 1 -/
theorem C09_site_copy (f : Nat) :
    disciplined f siteActiveCopy1 = true ∧ disciplined f siteActiveCopy2 = true ∧
    disciplined f siteActiveRefCopy1 = true ∧ disciplined f siteActiveRefCopy2 = true := by
  obtain ⟨e1, e2, e3, e4, _⟩ := sites_copy
  rw [e1, e2, e3, e4]
  exact ⟨scalarAssign_ok 1 f, scalarAssign_ok 1 f, scalarAssign_ok 1 f, scalarAssign_ok 1 f⟩

/-- the temporary returned by `Array::get_rvalue` / `FixedArray::get_rvalue` for an element of an active array
    (`Active(const PType&, Index)`): reserves 1, pushes 1.  (F-70: the pinned constructor pushed without reserving, so two
    such temporaries in one expression overflowed a full buffer.) -/
theorem C09_site_element_temporary (f : Nat) : disciplined f siteActiveElemCtor = true := by
  rw [sites_copy.2.2.2.2]
  exact scalarAssign_ok 1 f

/-- user-supplied dependences: `n` reserved, at most `n` (the non-zero multipliers) pushed -/
theorem C09_site_dependence (n k f : Nat) (h : k ≤ n) :
    disciplined f (siteActiveAddDep n k) = true ∧ disciplined f (siteActiveRefAddDep n k) = true ∧
    disciplined f (siteActiveConstRefAddDep n k) = true ∧
    disciplined f (siteActiveAppendDep n k) = true ∧ disciplined f (siteActiveRefAppendDep n k) = true ∧
    disciplined f (siteActiveConstRefAppendDep n k) = true ∧ disciplined f (sitePushDep n) = true := by
  obtain ⟨a1, a2, a3, _⟩ := sites_addDep n k
  obtain ⟨p1, p2, p3, _⟩ := sites_appendDep n k
  rw [a1, a2, a3, p1, p2, p3]
  exact ⟨addDep_ok n k f h, addDep_ok n k f h, addDep_ok n k f h, appendDep_ok n k f h, appendDep_ok n k f h,
    appendDep_ok n k f h, pushDep_ok n f⟩

theorem C09_site_dependence_single (k f : Nat) (h : k ≤ 1) :
    disciplined f (siteStackAddDep k) = true ∧ disciplined f (siteStackAppendDep k) = true := by
  rw [(sites_addDep 1 k).2.2.2, (sites_appendDep 1 k).2.2.2.1]
  exact ⟨addDep_ok 1 k f h, appendDep_ok 1 k f h⟩

/-- active array ← active expression, for Array, FixedArray and SpecialMatrix targets, any element count and
    any number of active leaves -/
theorem C09_site_array_assign (nA size f : Nat) :
    disciplined f (siteArrayAssignArray nA size) = true ∧ disciplined f (siteArrayAssignFixed nA size) = true ∧
    disciplined f (siteArrayAssignSpecial nA size) = true := by
  obtain ⟨e1, e2, e3, _⟩ := sites_arrayAssign nA size
  rw [e1, e2, e3]
  exact ⟨arrayAssign_ok nA size f, arrayAssign_ok nA size f, arrayAssign_ok nA size f⟩

/-- `diag_vector(active matrix expression, offdiag)`, both signs of `offdiag`, every diagonal length and number of active
    leaves.  (F-69: the pinned function had no reservation at all.) -/
theorem C09_site_diag_vector (nA n f : Nat) :
    disciplined f (siteDiagVectorUpper nA n) = true ∧ disciplined f (siteDiagVectorLower nA n) = true := by
  obtain ⟨_, _, _, _, e5, e6⟩ := sites_arrayAssign nA n
  rw [e5, e6]
  exact ⟨arrayAssign_ok nA n f, arrayAssign_ok nA n f⟩

/-- matrix products with active operands: matrix×vector (`elems = rows`), matrix×matrix (`elems = rows·cols`), for every
    inner extent and every combination of active operands; and band matrix × active vector for every size and band. -/
theorem C09_site_matmul (elems n dim ld ud f : Nat) (l r : Bool) :
    disciplined f (siteMatmul elems n l r) = true ∧ disciplined f (siteMatmulBandVec dim ld ud) = true := by
  obtain ⟨e1, e2, _⟩ := sites_matmul elems n dim ld ud l r
  rw [e1, e2]
  refine ⟨disciplined_flatten_self _ f fun b hb => ?_, disciplined_flatten_self _ f fun b hb => ?_⟩
  · rw [List.eq_of_mem_replicate hb]
    exact matmulElem_ok n l r
  · obtain ⟨i, _, rfl⟩ := List.mem_map.1 hb
    exact disciplined_append_self _ _ 0 (pushDep_ok _ 0) rfl

/-- active array ← active scalar -/
theorem C09_site_array_from_scalar (size f : Nat) :
    disciplined f (siteArrayFromScalarArray size) = true ∧ disciplined f (siteArrayFromScalarFixed size) = true := by
  obtain ⟨e1, e2, _⟩ := sites_fromScalar size 0
  rw [e1, e2]
  exact ⟨arrayFromScalar_ok size f, arrayFromScalar_ok size f⟩

/-- conditional assignment, for every mask -/
theorem C09_site_conditional (nA f : Nat) (mask : List Bool) :
    disciplined f (siteConditionalArray nA mask) = true ∧ disciplined f (siteConditionalFixed nA mask) = true := by
  obtain ⟨e1, e2⟩ := sites_conditional nA mask
  rw [e1, e2]
  exact ⟨conditional_ok nA f mask, conditional_ok nA f mask⟩

/-- integer-vector-indexed targets: expression and active-scalar right-hand sides -/
theorem C09_site_indexed (nA size f : Nat) :
    disciplined f (siteIndexedAssign nA size) = true ∧ disciplined f (siteIndexedFromScalar size) = true := by
  rw [(sites_arrayAssign nA size).2.2.2.1, (sites_fromScalar size 0).2.2.1]
  exact ⟨arrayAssign_ok nA size f, arrayFromScalar_ok size f⟩

/-- special matrix ← active scalar: `size()` reserved, one operation per stored element -/
theorem C09_site_special_from_scalar (size stored f : Nat) (h : stored ≤ size) :
    disciplined f (siteSpecialFromScalar size stored) = true := by
  rw [(sites_fromScalar size stored).2.2.2]
  exact stmts_ok size 1 stored f (by omega)

/-- Whole-array reduction of an active array, for every function: if each element records at most
    `n_active + extra_element_cost` operations (whatever else it does: `product` closes a statement per element) and the
    finishing events are disciplined on their own, the regenerated reservation `(n_active + extra)·n` suffices. -/
theorem C09_site_reduce_all (nA extra : Nat) (elems : List (List Ev)) (tail : List Ev) (f : Nat)
    (h : ∀ s ∈ elems, noIdx s = true ∧ pushCount s ≤ nA + extra) (ht : disciplined 0 tail = true) :
    disciplined f (siteReduceAll (reduce_0 nA 0 elems.length 0 0 extra 0) elems tail) = true :=
  reserved_blocks_ok _ (nA + extra) f elems tail h (Nat.le_of_eq (reduce_reservations nA elems.length 0 extra 0).1.symm) ht

/-- Reduction along a dimension of extent `d`, for every function: if each strip records at most
    `(n_active + extra)·d + finish` operations (`finish` = 2 for functions with a finishing step — mean, norm2 — and 1
    otherwise: the copy into the result), the regenerated reservation `(n_active+extra)·n + finish·strips` with
    `n = d·strips` suffices.  (F-04 was exactly the case `finish = 2` reserved as 1.) -/
theorem C09_site_reduce_dim (nA extra finish d : Nat) (strips : List (List Ev)) (f : Nat)
    (h : ∀ s ∈ strips, noIdx s = true ∧ pushCount s ≤ (nA + extra) * d + finish) :
    disciplined f (siteReduceDim (reduce_1 nA 0 (d * strips.length) 0 strips.length extra finish) strips) = true := by
  have hr : ((nA + extra) * d + finish) * strips.length ≤ reduce_1 nA 0 (d * strips.length) 0 strips.length extra finish := by
    rw [(reduce_reservations nA (d * strips.length) strips.length extra finish).2, Nat.add_mul, Nat.mul_assoc]
    exact Nat.le_refl _
  have := reserved_blocks_ok _ _ f strips [] h hr rfl
  rwa [List.append_nil] at this

/-- the F-04 configuration (mean along a dimension, 4×8, one active leaf): each strip pushes 4 + 2 operations -/
example : disciplined 0 (siteReduceDim (reduce_1 1 0 32 0 8 0 2)
    (List.replicate 8 ([Ev.lhs] ++ List.replicate 4 Ev.push ++ [.lhs, .check 1, .push, .lhs, .check 1, .push, .lhs]))) = true := by decide

/-- CENSUS.  Every call in include/adept/*.h that makes the stack push operations (`next_value_and_gradient*`,
    `scalar_value_and_gradient`, `push_rhs`, `push_rhs_indices`, `push_derivative_dependence`; the table is REGENERATED from
    the source by translate/reserve.py on every run) is preceded by a reservation in its own function, reserves for itself,
    or sits in a leaf member (`calc_gradient_`, engine `push_rhs`, `accumulate_active`, the forwarding members of
    Expression.h) that is only reached from inside a reserved statement.  No call is unreserved. -/
theorem C09_every_recording_call_reserved :
    recordingCalls.all (fun c => decide (c.2.2.2 ≠ RecKind.unreserved)) = true := by decide

/-- CENSUS of the node traits.  Every reservation `check_space(E::n_active · size)` derives from the compile-time trait
    `n_active` of the expression type.  The table (REGENERATED from include/adept/*.h by translate/reserve.py on every run) lists,
    for every class that defines the traits, the operand types named in `n_active`, `n_arrays` and `n_scratch`: no class is
    broken — every inner node sums `n_active` over exactly the operand types whose `n_arrays` it sums, so an operand whose
    operations are pushed is an operand whose operations were reserved. -/
theorem C09_node_traits_consistent :
    traitNodes.all (fun n => decide (n.2.2.2.2 ≠ TraitKind.broken)) = true ∧
    traitNodes.all (fun n => decide (n.2.2.2.2 = TraitKind.sumConsistent → n.2.1 = n.2.2.1)) = true := by decide

/-! Non-vacuity and sensitivity: a concrete disciplined stream from a tiny buffer runs clean while growing
three times, and an under-reserved one (reserve 1, push 3) faults from an adversarial state the model computes. -/
example : disciplined 0 (siteArrayAssignArray 2 3) = true ∧ (run (initial 1) (siteArrayAssignArray 2 3)).2 = false ∧
    (run (initial 1) (siteArrayAssignArray 2 3)).1.allocOps = 8 := by decide
example : disciplined 0 [.check 1, .push, .push, .push, .lhs] = false ∧
    findAdversary [.check 1, .push, .push, .push, .lhs] 4 = some (1, 0) := by decide

end Adept.RecBuf
