import AdeptProofs.Props.C12
/-!
# C14 — shared array data can be linked / sliced concurrently when built thread-safe

Property theorems only; helper lemmas are in `AdeptProofs/Lemmas/Threads.lean`.  Statements are about the `n_links_`
machine of `AdeptModel/Threads.lean` (part 3: one shared Storage object, threads executing atomic steps in any
interleaving) and about the footprint table (part 1).  The machine is instantiated with the flags GENERATED from
`include/adept/Storage.h` (`Generated/StorageCfg.lean`): the type of `n_links_` with and without
ADEPT_STORAGE_THREAD_SAFE, whether `remove_link()` tests the result of ONE read-modify-write, whether it starts with a
separate load, the type of the global counters.  That the compiled code performs exactly these atomic steps is OBSERVED
(ThreadSanitizer runs of harness/drv_threads.cpp in both builds), not proved; std::atomic is trusted.
-/
namespace Adept.Threads
open Adept.Generated NLinks

/-- What `Storage.h` says for the thread-safe build: `n_links_` is a std::atomic, `add_link()` is one read-modify-write,
    `remove_link()` tests the value returned by ONE read-modify-write — the shape the theorems below are about; the two
    global counters are atomic as well. -/
theorem C14_thread_safe_build_shape :
    shapeOf (StorageCfg.nLinksAtomicThreadSafe && StorageCfg.addLinkSingleRmw) StorageCfg.removeLinkRmwResultTested = .rmwTested ∧
    cfgThreadSafe.nLinksAtomic = true ∧ cfgThreadSafe.countersAtomic = true := by decide

/-- `-DADEPT_STORAGE_THREAD_SAFE` means the same thing whatever else is configured: for EVERY configuration macro the headers
    test (the list is regenerated from the `#if`s of include/adept/*.h; Storage.h is preprocessed once per macro, with that macro
    and ADEPT_STORAGE_THREAD_SAFE defined together) the reference counter is still a std::atomic, `remove_link`/`add_link` keep
    the single read-modify-write shape of `C14_thread_safe_build_shape`, and the storage counters stay atomic — no other switch
    (ADEPT_FAST, ADEPT_STACK_THREAD_UNSAFE, …) silently cancels the request.  The census is taken TWICE: without and with the
    compiler's OpenMP switch (`-fopenmp`, i.e. the predefined `_OPENMP`), over the same rows (first row: no other macro), so an
    `#if defined(ADEPT_STORAGE_THREAD_SAFE) && defined(_OPENMP)` (or `&& !defined(_OPENMP)`) falsifies one of the two tables. -/
theorem C14_thread_safe_under_every_config :
    StorageCfg.threadSafeUnderConfig.all (fun c => c.2) = true ∧ 20 ≤ StorageCfg.threadSafeUnderConfig.length ∧
    StorageCfg.threadSafeUnderConfigOpenMP.all (fun c => c.2) = true ∧
    StorageCfg.threadSafeUnderConfigOpenMP.map (fun c => c.1) = StorageCfg.threadSafeUnderConfig.map (fun c => c.1) :=
  -- the two name columns are the same literals
  ⟨by decide, by decide, by decide, rfl⟩

/-- FREED EXACTLY ONCE (micro-step level).  `T` threads; thread `t` starts owning `h0 t` views of the shared data (at
    least one view exists) and runs a well-formed program (it only copies/slices a view it owns and only destroys views
    it owns).  After EVERY interleaving of their atomic steps:
    the data has been freed at most once; no step ever touched the counter after the free; it has been freed if and
    only if no thread owns a view any more (so the freeing step is the removal of the last view); while it is not freed
    the counter equals the number of views; and once it is freed every thread has only counter-free steps left. -/
theorem C14_atomic_freed_once (T : Nat) (h0 : Nat → Nat) (progs : Nat → List MOp)
    (hwf : ∀ t, t < T → wfM (h0 t) (progs t) = true) (hpos : ∃ t, t < T ∧ 1 ≤ h0 t) (sched : List Nat) :
    let s := mexec sched (St.init T h0 progs)
    s.frees ≤ 1 ∧ s.touchedAfterFree = 0 ∧ (s.frees = 1 ↔ ∀ t, s.held t = 0) ∧
      (s.frees = 0 → s.count = (sumTo T s.held : Nat)) ∧ (s.frees = 1 → ∀ t, ∀ m ∈ s.rem t, m = .nop) := by
  intro s
  have h : Inv T s := mexec_invariant (Inv T) (fun _ t h => inv_step h t) sched _ (inv_init T h0 progs hwf hpos)
  have hall : s.frees = 1 → ∀ t, s.held t = 0 := fun hf t =>
    Nat.eq_zero_of_not_pos fun hp => absurd (hf.symm.trans (h.active hp).1) Nat.one_ne_zero
  refine ⟨?_, h.clean, ⟨hall, ?_⟩, fun hf => (h.live hf).1, ?_⟩
  · by_cases hf : s.frees = 0
    · omega
    · have := (h.dead hf).1; omega
  · intro hz
    by_cases hf : s.frees = 0
    · have := (h.live hf).2
      have := sumTo_zero_of_all s.held hz T
      omega
    · exact (h.dead hf).1
  · intro hf t m hm
    have hw := h.wf t
    rw [hall hf t] at hw
    exact wfM_zero_all_nop _ hw m hm

/-- FREED EXACTLY ONCE (API level, thread-safe build of the working tree).  Threads run arbitrary well-formed sequences
    of add-link (copy-construct, link, slice), remove-link (destroy a view), soft-view and private-array operations;
    these expand to the atomic steps `Storage.h` prescribes for the thread-safe build (generated flags).  Same conclusion. -/
theorem C14_freed_once_thread_safe_build (T : Nat) (h0 : Nat → Nat) (progs : Nat → List LOp)
    (hwf : ∀ t, t < T → wfL (h0 t) (progs t) = true) (hpos : ∃ t, t < T ∧ 1 ≤ h0 t) (sched : List Nat) :
    let sh := shapeOf (StorageCfg.nLinksAtomicThreadSafe && StorageCfg.addLinkSingleRmw) StorageCfg.removeLinkRmwResultTested
    let s := mexec sched (St.init T h0 fun t => expandAll sh StorageCfg.removeLinkLeadingLoad (progs t))
    s.frees ≤ 1 ∧ s.touchedAfterFree = 0 ∧ (s.frees = 1 ↔ ∀ t, s.held t = 0) ∧
      (s.frees = 0 → s.count = (sumTo T s.held : Nat)) ∧ (s.frees = 1 → ∀ t, ∀ m ∈ s.rem t, m = .nop) := by
  intro sh
  have hsh : sh = .rmwTested := C14_thread_safe_build_shape.1
  rw [hsh]
  exact C14_atomic_freed_once T h0 _ (fun t ht => wfM_expand _ _ _ (hwf t ht)) hpos sched

/-- The model distinguishes the configurations (1): if the decrement and the test are two statements
    (`--n_links_; if (n_links_ == 0) delete this`, even on a std::atomic), two threads that each destroy their one view
    can BOTH free the data. -/
theorem C14_split_can_double_free :
    ∃ sched : List Nat,
      (mexec sched (St.init 2 (fun _ => 1) fun _ => expandAll .rmwThenReload true [.removeLink])).frees = 2 :=
  ⟨[0, 0, 1, 1, 0, 1], by decide⟩

/-- The model distinguishes the configurations (2): with a plain `int` (`if (--n_links_ == 0)` is a load and a store),
    there is a two-thread schedule of well-formed programs that frees the data while a view is alive, touches the freed
    counter, and frees twice. -/
theorem C14_plain_int_can_double_free :
    ∃ sched : List Nat,
      let s := mexec sched (St.init 2 (fun _ => 1) fun t =>
        expandAll .loadStore false (if t = 0 then [.addLink, .removeLink, .addLink, .removeLink, .removeLink] else [.removeLink]))
      s.frees = 2 ∧ 0 < s.touchedAfterFree :=
  ⟨[1, 0, 1, 0, 0, 0, 0, 0, 0, 0], by decide⟩

/-- and a build whose `n_links_` is not atomic (the default build of the pinned tree) is never of the safe shape: only soft
    links are safe there -/
theorem C14_default_build_shape :
    StorageCfg.nLinksAtomicDefault = false →
      shapeOf (StorageCfg.nLinksAtomicDefault && StorageCfg.addLinkSingleRmw) StorageCfg.removeLinkRmwResultTested ≠ .rmwTested := by
  decide

/-- SOFT LINKS NEVER TOUCH THE COUNT (footprint table): a view made through `soft_link()` accesses no shared location at
    all, in any configuration. -/
theorem C14_soft_link_no_count (c : Cfg) : ∀ a ∈ footprint c .softView, a.loc.isShared = false := by
  intro a ha
  simp [footprint] at ha
  subst ha
  rfl

/-- SOFT LINKS NEVER TOUCH THE COUNT (machine): threads that only create/destroy soft views and private arrays leave the
    counter, the free count and everybody's views unchanged — in every shape of `remove_link`, for every schedule. -/
theorem C14_soft_link_machine (sh : Shape) (lead : Bool) (T : Nat) (h0 : Nat → Nat) (progs : Nat → List LOp)
    (hsoft : ∀ t, ∀ o ∈ progs t, o = .softView ∨ o = .privArray) (sched : List Nat) :
    let s0 := St.init T h0 fun t => expandAll sh lead (progs t)
    (mexec sched s0).count = s0.count ∧ (mexec sched s0).frees = 0 ∧ (mexec sched s0).touchedAfterFree = 0 ∧
      (mexec sched s0).held = s0.held := by
  intro s0
  have hn : AllNop s0 := by
    intro t m hm
    by_cases ht : t < T
    · simp only [s0, St.init, ht, if_true] at hm
      exact expandAll_soft sh lead _ (hsoft t) m hm
    · simp [s0, St.init, ht] at hm
  refine (mexec_invariant (fun s => AllNop s ∧ s.count = s0.count ∧ s.frees = s0.frees ∧
    s.touchedAfterFree = s0.touchedAfterFree ∧ s.held = s0.held) ?_ sched s0 ⟨hn, rfl, rfl, rfl, rfl⟩).2
  intro s t ⟨hs, e⟩
  obtain ⟨hs', e1, e2, e3, e4⟩ := allNop_step hs t
  rw [e1, e2, e3, e4]
  exact ⟨hs', e⟩

/-- NO DATA RACE ON LIBRARY STATE, thread-safe build: for the operation kinds of a C14 workload (link / unlink / soft view
    of the shared array, creation and destruction of private arrays, views of own data) every pair of conflicting
    accesses to a shared location is atomic (`n_links_`, the two storage counters) … -/
theorem C14_hypothesis_thread_safe : NoPlainConflict cfgThreadSafe c14Kinds :=
  c14Kinds_noPlainConflict cfgThreadSafe C14_thread_safe_build_shape.2.2 C14_thread_safe_build_shape.2.1

/-- … hence no schedule of any such workload contains a data race. -/
theorem C14_race_free_thread_safe (W : Workload) (hU : UsesOnly W c14Kinds) (sched : List Nat) (w0 : World) :
    ∀ e ∈ (exec cfgThreadSafe W sched (Run.start w0)).trace, ∀ e' ∈ (exec cfgThreadSafe W sched (Run.start w0)).trace,
      ∀ a ∈ footprint cfgThreadSafe e.2.kind, ∀ b ∈ footprint cfgThreadSafe e'.2.kind, ¬ Races e.1 a e'.1 b :=
  C12_race_free cfgThreadSafe W c14Kinds C14_hypothesis_thread_safe hU sched w0

theorem C14_hypothesis_soft_default : NoPlainConflict cfgDefault c14SoftKinds :=
  c14SoftKinds_noPlainConflict cfgDefault (by decide)

/-- NO DATA RACE, default build, soft links only: the same for workloads that use soft views and private arrays. -/
theorem C14_race_free_soft_default (W : Workload) (hU : UsesOnly W c14SoftKinds) (sched : List Nat) (w0 : World) :
    ∀ e ∈ (exec cfgDefault W sched (Run.start w0)).trace, ∀ e' ∈ (exec cfgDefault W sched (Run.start w0)).trace,
      ∀ a ∈ footprint cfgDefault e.2.kind, ∀ b ∈ footprint cfgDefault e'.2.kind, ¬ Races e.1 a e'.1 b :=
  C12_race_free cfgDefault W c14SoftKinds C14_hypothesis_soft_default hU sched w0

/-- The model distinguishes the configurations (3): in a DEFAULT build with a plain `n_links_`, real links from several threads do race on
    `n_links_` (which is why the property asks for soft links there). -/
theorem C14_sensitivity_default_build_links_race :
    cfgDefault.nLinksAtomic = false → ¬ NoPlainConflict cfgDefault c14Kinds := by decide

/-! ### Non-vacuity of `C14_freed_once_thread_safe_build`: three threads, thread 0 is the creator (one view), threads 1
and 2 were each handed one view; they copy, slice and destroy; the creator leaves first in this schedule, thread 2
destroys the last view and is the one step that frees. -/
example :
    let progs : Nat → List LOp := fun t =>
      if t = 0 then [.removeLink] else if t = 1 then [.addLink, .removeLink, .privArray, .removeLink]
      else [.addLink, .addLink, .removeLink, .softView, .removeLink, .removeLink]
    (∀ t, t < 3 → wfL 1 (progs t) = true) ∧
    (let s := mexec [0, 0, 1, 2, 2, 1, 1, 2, 2, 1, 1, 1, 2, 2, 2] (St.init 3 (fun _ => 1) fun t => expandAll .rmwTested true (progs t))
     s.frees = 0 ∧ s.count = 1 ∧ s.held 2 = 1) ∧
    (let s := mexec [0, 0, 1, 2, 2, 1, 1, 2, 2, 1, 1, 1, 2, 2, 2, 2, 2] (St.init 3 (fun _ => 1) fun t => expandAll .rmwTested true (progs t))
     s.frees = 1 ∧ s.count = 0 ∧ s.touchedAfterFree = 0) := by
  decide

end Adept.Threads
