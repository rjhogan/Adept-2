import AdeptProofs.Lemmas.Matmul
/-!
# C15 — matrix multiplication returns the true product for every operand form

Property theorems only; helper lemmas live in `AdeptProofs/Lemmas/Matmul.lean`.  All statements are about
`AdeptModel/Matmul.lean` (the transcription of `include/adept/matmul.h` and `adept/cppblas.cpp`, with the
repairs F-13, F-14, F-26) on top of `AdeptModel/Blas.lean` (the BLAS contract transcribed from the Netlib
reference); the correspondence check (checks/c15.py) ties the model to the C++ on every run by comparing the
logged Fortran arguments, the touched index ranges and the results of a spy BLAS with the model's.

Conventions: `A.get i k` is the cell `A.mem (addr A.v i k)`, `addr v i k = base + i·o0 + k·o1`; `sumTo f n = Σ_{l<n} f l`.
The theorems hold over every commutative ring, for all extents ≥ 1 and for ALL strides of the
matrix operands (positive, negative, zero, overlapping): an operand that is neither row- nor column-contiguous is
copied.  The only layout hypotheses left are those BLAS itself imposes on what matmul.h passes through unchanged:
a vector increment must be non-zero, the offset of a symmetric matrix at least its dimension and the offset of a
band matrix at least `LDiags + UDiags` (true of every matrix `resize` or `submatrix_on_diagonal` can produce).

The model is the tree WITH the repairs F-13, F-14, F-26; on the tree without them the dense paths need all strides
positive and `C15_gbmv_path` needs `LDiags = UDiags`: `AdeptProofs/Refute/Matmul.lean` has the witnesses against the
BLAS contract.

The derivative clause is modelled twice.  `gemvOps` / `gemmOps` give the operations pushed for ONE result element, with
buffer and cell of each gradient (`C15_active_product_*` are about them and nothing else is).  `gemvRecord` / `gemmRecord` /
`bandVRecord` transcribe the recording loops of matmul.h literally
(gradient index arithmetic with the operands' offsets, multiplier addresses into the operands' memory); `C15_tape_*` give
their closed forms (left-hand side = gradient index of the result element, operations exactly
`{(B[k,j], gidx A[i,k])} ∪ {(A[i,k], gidx B[k,j])}`, for a band matrix the in-band `k` only), `C15_stmt_differential_*`
show that such a statement denotes the differential of the defining sum, and `C15_active_derivative_*` run the
tangent-linear sweep over EVERYTHING a product records — the element-wise copies of doubly strided operands
included — and obtain `Σₖ B[k,j]·dA[i,k] + A[i,k]·dB[k,j]` in terms of the ORIGINAL operands' gradient cells, for every
layout.  The check compares the model's statements with the implementation's tape exactly on every active case.

Not proved here (correspondence and oracle only): `reads_within` for the band · matrix form (it is proved for the
band · vector call, of which the matrix form issues one per column), and the conversions `promote_array` performs before
`matmul_` is entered (expressions, active or square / triangular special matrices, fixed arrays: Driver/Matmul.lean;
their statements — one per element, multiplier 2 resp. 1, empty for structural zeros — are part of the compared tape).
-/
namespace Adept.Matmul
open Adept.Blas

variable {α : Type} [CommRing α]

/-- **gemm_path.**  `matmul(L,R)[i,j] = Σₖ L[i,k]·R[k,j]` for dense matrices of any layout: row-contiguous,
    column-contiguous or strided in both directions (then copied), in every combination; the ?GEMM call is
    accepted (no illegal leading dimension) and the result has the extents of the product. -/
theorem C15_gemm_path {pw : Nat} (hpw : 1 ≤ pw) (L Rm : Mat α)
    (hm : 1 ≤ L.v.d0) (hk : 1 ≤ L.v.d1) (hn : 1 ≤ Rm.v.d1) (hkk : L.v.d1 = Rm.v.d0) :
    ∃ o, matmulMM pw L Rm = .ok o ∧ gemmInfo o.call.args = 0 ∧
      o.ans.v.d0 = L.v.d0 ∧ o.ans.v.d1 = Rm.v.d1 ∧
      ∀ i j, i < L.v.d0 → j < Rm.v.d1 → o.ans.get i j = sumTo (fun k => L.get i k * Rm.get k j) L.v.d1 := by
  have hm' : 1 ≤ (prep pw L).v.d0 := (prep_d0 pw L).symm ▸ hm
  have hk' : 1 ≤ (prep pw L).v.d1 := (prep_d1 pw L).symm ▸ hk
  have hn' : 1 ≤ (prep pw Rm).v.d1 := (prep_d1 pw Rm).symm ▸ hn
  have hkk' : (prep pw L).v.d1 = (prep pw Rm).v.d0 := by rw [prep_d1, prep_d0]; exact hkk
  refine ⟨gemmDense pw (prep pw L) (prep pw Rm), ?_, ?_, prep_d0 pw L, prep_d1 pw Rm, ?_⟩
  · unfold matmulMM
    exact checks_pass hm (hkk ▸ hk) hkk _
  · exact gemmDense_info hpw _ _ (prep_contig hpw L) (prep_contig hpw Rm) hm' hk' hn' hkk'
  · intro i j hi hj
    rw [gemmDense_get hpw _ _ (prep_contig hpw L) (prep_contig hpw Rm) hm' hk' hn' hkk'
      ((prep_d0 pw L).symm ▸ hi) ((prep_d1 pw Rm).symm ▸ hj), prep_d1]
    exact sumTo_congr fun l hl => by rw [prep_get hpw L hi hl, prep_get hpw Rm (hkk ▸ hl) hj]

/-- **gemm reads_within.**  Every index ?GEMM reads lies at an element address of the array it was handed, and
    that array is the caller's operand itself or the fresh temporary that holds a copy of it. -/
theorem C15_gemm_reads_within {pw : Nat} (hpw : 1 ≤ pw) (L Rm : Mat α) (hm : 1 ≤ L.v.d0) (hk : 1 ≤ L.v.d1) (hkk : L.v.d1 = Rm.v.d0) :
    ∃ o, matmulMM pw L Rm = .ok o ∧
      (o.l = L ∨ o.l = copyMat pw L) ∧ (o.r = Rm ∨ o.r = copyMat pw Rm) ∧
      (∀ p ∈ gemmReadA o.call.args, ∃ l j, l < o.r.v.d0 ∧ j < o.r.v.d1 ∧ o.call.pa.off + p = o.r.v.addr l j) ∧
      (∀ p ∈ gemmReadB o.call.args, ∃ i l, i < o.l.v.d0 ∧ l < o.l.v.d1 ∧ o.call.pb.off + p = o.l.v.addr i l) ∧
      o.call.pa.buf = o.r.buf ∧ o.call.pb.buf = o.l.buf := by
  refine ⟨gemmDense pw (prep pw L) (prep pw Rm), ?_, prep_cases pw L, prep_cases pw Rm, ?_, ?_, ?_, ?_⟩
  · unfold matmulMM
    exact checks_pass hm (hkk ▸ hk) hkk _
  · exact (gemmDense_reads hpw _ _ (prep_contig hpw L) (prep_contig hpw Rm) (by rw [prep_d1, prep_d0]; exact hkk)).1
  · exact (gemmDense_reads hpw _ _ (prep_contig hpw L) (prep_contig hpw Rm) (by rw [prep_d1, prep_d0]; exact hkk)).2
  · rw [gemmDense_eq hpw]; rfl
  · rw [gemmDense_eq hpw]; rfl

/-- **gemv_path.**  `matmul(L,x)[i] = Σₖ L[i,k]·x[k]` for a dense matrix of any layout and a vector with any
    non-zero stride, negative strides included (F-13). -/
theorem C15_gemv_path {pw : Nat} (hpw : 1 ≤ pw) (L : Mat α) (x : Vec α)
    (hm : 1 ≤ L.v.d0) (hk : 1 ≤ L.v.d1) (hkk : L.v.d1 = x.v.d) (hx : x.v.o ≠ 0) :
    ∃ o, matmulMV pw L x = .ok o ∧ gemvInfo o.call.args = 0 ∧ o.ans.v.d = L.v.d0 ∧
      ∀ i, i < L.v.d0 → o.ans.get i = sumTo (fun k => L.get i k * x.get k) L.v.d1 := by
  have hm' : 1 ≤ (prep pw L).v.d0 := (prep_d0 pw L).symm ▸ hm
  have hk' : 1 ≤ (prep pw L).v.d1 := (prep_d1 pw L).symm ▸ hk
  refine ⟨gemvDense (prep pw L) x, ?_, gemvDense_info _ x (prep_contig hpw L) hm' hk' hx, prep_d0 pw L, ?_⟩
  · unfold matmulMV
    exact checks_pass hm (hkk ▸ hk) hkk _
  · intro i hi
    rw [gemvDense_get (prep pw L) x (prep_contig hpw L) hm' hk' ((prep_d1 pw L).trans hkk) hx ((prep_d0 pw L).symm ▸ hi), prep_d1]
    exact sumTo_congr fun l hl => by rw [prep_get hpw L hi hl]

/-- **vector · matrix.**  `matmul(x,R)[j] = Σₖ x[k]·R[k,j]` (evaluated as `matmul(R.T(), x)`). -/
theorem C15_vecmat_path {pw : Nat} (hpw : 1 ≤ pw) (x : Vec α) (Rm : Mat α)
    (hk : 1 ≤ Rm.v.d0) (hn : 1 ≤ Rm.v.d1) (hkk : x.v.d = Rm.v.d0) (hx : x.v.o ≠ 0) :
    ∃ o, matmulVM pw x Rm = .ok o ∧ gemvInfo o.call.args = 0 ∧ o.ans.v.d = Rm.v.d1 ∧
      ∀ j, j < Rm.v.d1 → o.ans.get j = sumTo (fun k => x.get k * Rm.get k j) Rm.v.d0 := by
  obtain ⟨o, h1, h2, h3, h4⟩ := C15_gemv_path hpw Rm.T x (by rw [Mat.T_d0]; exact hn) (by rw [Mat.T_d1]; exact hk)
    (by rw [Mat.T_d1]; exact hkk.symm) hx
  refine ⟨o, h1, h2, h3, ?_⟩
  intro j hj
  rw [h4 j hj]
  show sumTo _ Rm.v.d0 = _
  apply sumTo_congr
  intro l _
  rw [Mat.T_get, mul_comm]

/-- **gemv reads_within.**  ?GEMV reads only elements of the matrix it was handed (the operand or its copy) and
    only elements of the vector: with a negative increment the pointer is moved to the lowest address first. -/
theorem C15_gemv_reads_within {pw : Nat} (hpw : 1 ≤ pw) (L : Mat α) (x : Vec α)
    (hm : 1 ≤ L.v.d0) (hk : 1 ≤ L.v.d1) (hkk : L.v.d1 = x.v.d) :
    ∃ o, matmulMV pw L x = .ok o ∧ (o.l = L ∨ o.l = copyMat pw L) ∧
      (∀ p ∈ gemvReadA o.call.args, ∃ i l, i < o.l.v.d0 ∧ l < o.l.v.d1 ∧ o.call.pa.off + p = o.l.v.addr i l) ∧
      (∀ p ∈ gemvReadX o.call.args, ∃ l, l < x.v.d ∧ o.call.px.off + p = x.v.addr l) ∧
      o.call.pa.buf = o.l.buf ∧ o.call.px.buf = x.buf := by
  refine ⟨gemvDense (prep pw L) x, ?_, prep_cases pw L, ?_, ?_, ?_, ?_⟩
  · unfold matmulMV
    exact checks_pass hm (hkk ▸ hk) hkk _
  · exact (gemvDense_reads _ x (prep_contig hpw L) (by rw [prep_d1]; exact hkk)).1
  · exact (gemvDense_reads _ x (prep_contig hpw L) (by rw [prep_d1]; exact hkk)).2
  · rw [gemvDense_eq]; rfl
  · rw [gemvDense_eq]

/-- **copies are faithful.**  The array handed to BLAS has the extents and the element values of the operand and is
    row- or column-contiguous, whatever the operand's strides. -/
theorem C15_prepared_operand {pw : Nat} (hpw : 1 ≤ pw) (A : Mat α) :
    (prep pw A).v.d0 = A.v.d0 ∧ (prep pw A).v.d1 = A.v.d1 ∧
    (isRowContig (prep pw A).v = true ∨ isColContig (prep pw A).v = true) ∧
    ∀ i k, i < A.v.d0 → k < A.v.d1 → (prep pw A).get i k = A.get i k :=
  ⟨prep_d0 pw A, prep_d1 pw A, prep_contig hpw A, fun _ _ hi hk => prep_get hpw A hi hk⟩

/-- **errors (matrix · matrix).**  An empty operand raises `empty_array` — also when the inner extents disagree
    as well — and otherwise mismatched inner extents raise `inner_dimension_mismatch`. -/
theorem C15_errors_mm (pw : Nat) (L Rm : Mat α) :
    ((L.v.d0 = 0 ∨ Rm.v.d0 = 0) → matmulMM pw L Rm = .error .emptyArray) ∧
    (L.v.d0 ≠ 0 → Rm.v.d0 ≠ 0 → L.v.d1 ≠ Rm.v.d0 → matmulMM pw L Rm = .error .innerDimensionMismatch) := by
  unfold matmulMM
  exact checks_first L.v.d0 Rm.v.d0 L.v.d1 Rm.v.d0 _

/-- **errors (matrix · vector, vector · matrix).** -/
theorem C15_errors_mv (pw : Nat) (L : Mat α) (x : Vec α) :
    ((L.v.d0 = 0 ∨ x.v.d = 0) → matmulMV pw L x = .error .emptyArray) ∧
    (L.v.d0 ≠ 0 → x.v.d ≠ 0 → L.v.d1 ≠ x.v.d → matmulMV pw L x = .error .innerDimensionMismatch) ∧
    ((L.v.d1 = 0 ∨ x.v.d = 0) → matmulVM pw x L = .error .emptyArray) ∧
    (L.v.d1 ≠ 0 → x.v.d ≠ 0 → L.v.d0 ≠ x.v.d → matmulVM pw x L = .error .innerDimensionMismatch) := by
  unfold matmulVM matmulMV
  exact ⟨(checks_first L.v.d0 x.v.d L.v.d1 x.v.d _).1, (checks_first L.v.d0 x.v.d L.v.d1 x.v.d _).2,
    (checks_first L.v.d1 x.v.d L.v.d0 x.v.d _).1, (checks_first L.v.d1 x.v.d L.v.d0 x.v.d _).2⟩

/-- **errors (special matrices).**  Same order for symmetric and band operands (`check_inner_dimensions_sqr`);
    the combinations matmul.h does not implement are refused with `invalid_operation` only after these checks. -/
theorem C15_errors_special (pw : Nat) (lAct rAct : Bool) (s : Symm α) (b : Band α) (x : Vec α) (Rm : Mat α) :
    ((s.dim = 0 ∨ x.v.d = 0) → matmulSymV lAct rAct s x = .error .emptyArray) ∧
    (s.dim ≠ 0 → x.v.d ≠ 0 → s.dim ≠ x.v.d → matmulSymV lAct rAct s x = .error .innerDimensionMismatch) ∧
    ((s.dim = 0 ∨ Rm.v.d0 = 0) → matmulSymM pw lAct rAct s Rm = .error .emptyArray) ∧
    (s.dim ≠ 0 → Rm.v.d0 ≠ 0 → s.dim ≠ Rm.v.d0 → matmulSymM pw lAct rAct s Rm = .error .innerDimensionMismatch) ∧
    ((b.dim = 0 ∨ x.v.d = 0) → matmulBandV lAct b x = .error .emptyArray) ∧
    (b.dim ≠ 0 → x.v.d ≠ 0 → b.dim ≠ x.v.d → matmulBandV lAct b x = .error .innerDimensionMismatch) ∧
    ((b.dim = 0 ∨ Rm.v.d0 = 0) → matmulBandM pw lAct rAct b Rm = .error .emptyArray) ∧
    (b.dim ≠ 0 → Rm.v.d0 ≠ 0 → b.dim ≠ Rm.v.d0 → matmulBandM pw lAct rAct b Rm = .error .innerDimensionMismatch) := by
  unfold matmulSymV matmulSymM matmulBandV matmulBandM
  exact ⟨(checks_first s.dim x.v.d s.dim x.v.d _).1, (checks_first s.dim x.v.d s.dim x.v.d _).2,
    (checks_first s.dim Rm.v.d0 s.dim Rm.v.d0 _).1, (checks_first s.dim Rm.v.d0 s.dim Rm.v.d0 _).2,
    (checks_first b.dim x.v.d b.dim x.v.d _).1, (checks_first b.dim x.v.d b.dim x.v.d _).2,
    (checks_first b.dim Rm.v.d0 b.dim Rm.v.d0 _).1, (checks_first b.dim Rm.v.d0 b.dim Rm.v.d0 _).2⟩

/-- **symv_path.**  `matmul(S,x)[i] = Σₖ S[i,k]·x[k]` for both orientations of a passive symmetric matrix, where
    `S[i,k]` is the cell `SymmEngine::index(i,k)` (so only the stored triangle is involved). -/
theorem C15_symv_path (s : Symm α) (x : Vec α) (hn : 1 ≤ s.dim) (hd : s.dim = x.v.d)
    (hoff : (s.dim : Int) ≤ s.off) (hx : x.v.o ≠ 0) :
    ∃ o, matmulSymV false false s x = .ok o ∧ symvInfo o.call.args = 0 ∧ o.ans.v.d = s.dim ∧
      ∀ i, i < s.dim → o.ans.get i = sumTo (fun k => s.get i k * x.get k) s.dim := by
  refine ⟨symvCore s x, ?_, symvCore_info s x hd hn hoff hx, hd.symm, fun i hi => symvCore_get s x hd hn hoff hx hi⟩
  unfold matmulSymV
  exact (checks_pass hn (hd ▸ hn) hd _).trans (if_neg both_passive)

/-- **vector · symmetric.**  `matmul(x,S)[j] = Σₖ x[k]·S[k,j]`. -/
theorem C15_vecsym_path (s : Symm α) (x : Vec α) (hn : 1 ≤ s.dim) (hd : s.dim = x.v.d)
    (hoff : (s.dim : Int) ≤ s.off) (hx : x.v.o ≠ 0) :
    ∃ o, matmulVSym false false x s = .ok o ∧ symvInfo o.call.args = 0 ∧
      ∀ j, j < s.dim → o.ans.get j = sumTo (fun k => x.get k * s.get k j) s.dim := by
  obtain ⟨o, h1, h2, -, h4⟩ := C15_symv_path s x hn hd hoff hx
  refine ⟨o, h1, h2, ?_⟩
  intro j hj
  rw [h4 j hj]
  apply sumTo_congr
  intro l _
  rw [Symm.get_comm, mul_comm]

/-- **symm_path.**  `matmul(S,R)[i,j] = Σₖ S[i,k]·R[k,j]` for a passive symmetric matrix and a dense matrix of any
    layout (row-contiguous: row-major ?SYMM rewritten to SIDE = R; column-contiguous: SIDE = L; otherwise copied). -/
theorem C15_symm_path {pw : Nat} (hpw : 1 ≤ pw) (s : Symm α) (Rm : Mat α) (hn : 1 ≤ s.dim) (hc : 1 ≤ Rm.v.d1)
    (hd : s.dim = Rm.v.d0) (hoff : (s.dim : Int) ≤ s.off) :
    ∃ o, matmulSymM pw false false s Rm = .ok o ∧ symmInfo o.call.args = 0 ∧
      ∀ i j, i < s.dim → j < Rm.v.d1 → o.ans.get i j = sumTo (fun k => s.get i k * Rm.get k j) s.dim := by
  have hd' : s.dim = (prep pw Rm).v.d0 := by rw [prep_d0]; exact hd
  have hc' : 1 ≤ (prep pw Rm).v.d1 := by rw [prep_d1]; exact hc
  refine ⟨symmCore pw s (prep pw Rm), ?_, symmCore_info hpw s _ (prep_contig hpw Rm) hd' hn hc' hoff, ?_⟩
  · unfold matmulSymM
    exact (checks_pass hn (hd ▸ hn) hd _).trans (if_neg both_passive)
  · intro i j hi hj
    rw [symmCore_get hpw s _ (prep_contig hpw Rm) hd' hn hc' hoff hi (by rw [prep_d1]; exact hj)]
    apply sumTo_congr
    intro l hl
    rw [prep_get hpw Rm (by omega) hj]

/-- **matrix · symmetric.**  `matmul(L,S)[i,j] = Σₖ L[i,k]·S[k,j]` (evaluated as `matmul(S, L.T()).T()`). -/
theorem C15_matsym_path {pw : Nat} (hpw : 1 ≤ pw) (L : Mat α) (s : Symm α) (hn : 1 ≤ s.dim) (hm : 1 ≤ L.v.d0)
    (hd : s.dim = L.v.d1) (hoff : (s.dim : Int) ≤ s.off) :
    ∃ o, matmulMSym pw false false L s = .ok o ∧ symmInfo o.call.args = 0 ∧
      ∀ i j, i < L.v.d0 → j < s.dim → o.ans.get i j = sumTo (fun k => L.get i k * s.get k j) s.dim := by
  obtain ⟨o, h1, h2, h3⟩ := C15_symm_path hpw s L.T hn (by rw [Mat.T_d1]; exact hm) (by rw [Mat.T_d0]; exact hd) hoff
  refine ⟨{ o with ans := o.ans.T }, ?_, h2, ?_⟩
  · unfold matmulMSym; rw [h1]
  · intro i j hi hj
    show o.ans.T.get i j = _
    rw [Mat.T_get, h3 j i hj (by rw [Mat.T_d1]; exact hi)]
    apply sumTo_congr
    intro l _
    rw [Mat.T_get, Symm.get_comm, mul_comm]

/-- **symmetric reads_within.**  ?SYMV / ?SYMM read the symmetric matrix only at cells of elements `(i,j)` of the
    matrix, and the other operand only at its element addresses. -/
theorem C15_sym_reads_within {pw : Nat} (hpw : 1 ≤ pw) (s : Symm α) (x : Vec α) (Rm : Mat α) (hdx : s.dim = x.v.d) (hdr : s.dim = Rm.v.d0) :
    ((∀ p ∈ symvReadA (symvCore s x).call.args, ∃ i j, i < s.dim ∧ j < s.dim ∧ (symvCore s x).call.pa.off + p = s.cell i j) ∧
     (∀ p ∈ symvReadX (symvCore s x).call.args, ∃ l, l < x.v.d ∧ (symvCore s x).call.px.off + p = x.v.addr l)) ∧
    ((∀ p ∈ symmReadA (symmCore pw s (prep pw Rm)).call.args,
        ∃ i j, i < s.dim ∧ j < s.dim ∧ (symmCore pw s (prep pw Rm)).call.pa.off + p = s.cell i j) ∧
     (∀ p ∈ symmReadB (symmCore pw s (prep pw Rm)).call.args,
        ∃ l j, l < (prep pw Rm).v.d0 ∧ j < (prep pw Rm).v.d1 ∧ (symmCore pw s (prep pw Rm)).call.pb.off + p = (prep pw Rm).v.addr l j)) :=
  ⟨symvCore_reads s x hdx, symmCore_reads s _ (prep_contig hpw Rm) (by rw [prep_d0]; exact hdr)⟩

/-- **gbmv_path.**  `matmul(B,x)[i] = Σₖ B[i,k]·x[k]` for a passive band matrix with ANY numbers of sub- and
    super-diagonals in row- or column-major storage (KL/KU exchanged and the matrix transposed in row-major; start
    pointer `ptr − LDiags` resp. `ptr − UDiags`, F-26), `B[i,k]` being zero outside the band and the cell
    `BandEngine::index(i,k)` inside. -/
theorem C15_gbmv_path (b : Band α) (x : Vec α) (hn : 1 ≤ b.dim) (hd : b.dim = x.v.d)
    (hoff : (b.kl : Int) + (b.ku : Int) ≤ b.off) (hx : x.v.o ≠ 0) :
    ∃ o, matmulBandV false b x = .ok o ∧ gbmvInfo o.call.args = 0 ∧ o.ans.v.d = b.dim ∧
      ∀ i, i < b.dim → o.ans.get i = sumTo (fun k => b.get i k * x.get k) b.dim := by
  refine ⟨bandVCore b x, ?_, bandVCore_info b x hoff hx, hd.symm, fun i hi => bandVCore_get b x hd hoff hx hi⟩
  unfold matmulBandV
  exact (checks_pass hn (hd ▸ hn) hd _).trans (if_neg Bool.false_ne_true)

/-- **vector · band.**  `matmul(x,B)[j] = Σₖ x[k]·B[k,j]` (the band matrix is re-described as its transpose). -/
theorem C15_vecband_path (b : Band α) (x : Vec α) (hn : 1 ≤ b.dim) (hd : b.dim = x.v.d)
    (hoff : (b.kl : Int) + (b.ku : Int) ≤ b.off) (hx : x.v.o ≠ 0) :
    ∃ o, matmulVBand false x b = .ok o ∧ gbmvInfo o.call.args = 0 ∧
      ∀ j, j < b.dim → o.ans.get j = sumTo (fun k => x.get k * b.get k j) b.dim := by
  obtain ⟨o, h1, h2, -, h4⟩ := C15_gbmv_path b.T x (by rw [Band.T_dim]; exact hn) (by rw [Band.T_dim]; exact hd) (by show ((b.ku : Int) + (b.kl : Int) ≤ b.off); omega) hx
  refine ⟨o, h1, h2, ?_⟩
  intro j hj
  rw [h4 j (by rw [Band.T_dim]; exact hj)]
  show sumTo _ b.dim = _
  apply sumTo_congr
  intro l _
  rw [Band.T_get, mul_comm]

-- `hc` is a hypothesis of the statement that the proof does not need
set_option linter.unusedVariables false in
/-- **band · matrix.**  `matmul(B,R)[i,j] = Σₖ B[i,k]·R[k,j]`: one ?GBMV per column of `R`, each accepted, each
    writing only its own column of the (row-major, possibly padded) result; `R` may have any strides with a
    non-zero row stride (it is used as the vector increment; negative values included). -/
theorem C15_bandmat_path {pw : Nat} (hpw : 1 ≤ pw) (b : Band α) (Rm : Mat α) (hn : 1 ≤ b.dim) (hc : 1 ≤ Rm.v.d1)
    (hd : b.dim = Rm.v.d0) (hoff : (b.kl : Int) + (b.ku : Int) ≤ b.off) (hx : Rm.v.o0 ≠ 0) :
    ∃ o, matmulBandM pw false false b Rm = .ok o ∧ (∀ c ∈ o.calls, gbmvInfo c.args = 0) ∧ o.calls.length = Rm.v.d1 ∧
      ∀ i j, i < b.dim → j < Rm.v.d1 → o.ans.get i j = sumTo (fun k => b.get i k * Rm.get k j) b.dim := by
  refine ⟨bandMCore pw b Rm, ?_, bandMCore_info hpw b Rm hoff hx, ?_, fun i j hi hj => bandMCore_get hpw b Rm hd hoff hx hi hj⟩
  · unfold matmulBandM
    exact (checks_pass hn (hd ▸ hn) hd _).trans (if_neg both_passive)
  · show ((List.range Rm.v.d1).map _).length = _
    simp

/-- **matrix · band.**  `matmul(L,B)[i,j] = Σₖ L[i,k]·B[k,j]` (evaluated as `matmul(Bᵀ, L.T()).T()`). -/
theorem C15_matband_path {pw : Nat} (hpw : 1 ≤ pw) (L : Mat α) (b : Band α) (hn : 1 ≤ b.dim) (hm : 1 ≤ L.v.d0)
    (hd : b.dim = L.v.d1) (hoff : (b.kl : Int) + (b.ku : Int) ≤ b.off) (hx : L.v.o1 ≠ 0) :
    ∃ o, matmulMBand pw false false L b = .ok o ∧ (∀ c ∈ o.calls, gbmvInfo c.args = 0) ∧
      ∀ i j, i < L.v.d0 → j < b.dim → o.ans.get i j = sumTo (fun k => L.get i k * b.get k j) b.dim := by
  obtain ⟨o, h1, h2, -, h4⟩ := C15_bandmat_path hpw b.T L.T (by rw [Band.T_dim]; exact hn) (by rw [Mat.T_d1]; exact hm)
    (by rw [Band.T_dim, Mat.T_d0]; exact hd)
    (by show ((b.ku : Int) + (b.kl : Int) ≤ b.off); omega) (by rw [Mat.T_o0]; exact hx)
  refine ⟨{ o with ans := o.ans.T }, ?_, h2, ?_⟩
  · unfold matmulMBand; rw [h1]
  · intro i j hi hj
    show o.ans.T.get i j = _
    rw [Mat.T_get, h4 j i (by rw [Band.T_dim]; exact hj) (by rw [Mat.T_d1]; exact hi)]
    show sumTo _ b.dim = _
    apply sumTo_congr
    intro l _
    rw [Band.T_get, Mat.T_get, mul_comm]

/-- **gbmv reads_within.**  ?GBMV reads the band matrix only at cells of elements inside the band (never the
    "missing" corners before and after the storage) and the vector only at its elements. -/
theorem C15_gbmv_reads_within (b : Band α) (x : Vec α) (hd : b.dim = x.v.d) :
    (∀ p ∈ gbmvReadA (bandVCore b x).call.args,
        ∃ i j, i < b.dim ∧ j < b.dim ∧ j ≤ i + b.ku ∧ i ≤ j + b.kl ∧ (bandVCore b x).call.pa.off + p = b.cell i j) ∧
    (∀ p ∈ gbmvReadX (bandVCore b x).call.args, ∃ l, l < x.v.d ∧ (bandVCore b x).call.px.off + p = x.v.addr l) :=
  bandCall_reads b x ⟨.C, 0⟩ 1 hd

omit [CommRing α] in
/-- **active_product (matrix · matrix).**  The operations pushed for result element `(i,j)` are exactly
    `R[l,j]·d L[i,l]` (if the left operand is active) followed by `L[i,l]·d R[l,j]` (if the right one is), `l`
    over the inner extent: the partial derivatives of the defining sum `Σₗ L[i,l]·R[l,j]`, attached to the
    gradient cells `addr L [i,l]`, `addr R [l,j]`. -/
theorem C15_active_product_mm [Add α] [Mul α] [Zero α] (lAct rAct : Bool) (L Rm : Mat α) (i j : Nat) :
    gemmOps lAct rAct L Rm i j =
      (if lAct then (List.range Rm.v.d0).map (fun l => (Rm.get l j, L.buf, L.v.addr i l)) else []) ++
      (if rAct then (List.range Rm.v.d0).map (fun l => (L.get i l, Rm.buf, Rm.v.addr l j)) else []) := by
  unfold gemmOps pushDep
  simp only [List.map_map, Function.comp_def, View2.addr_swap]
  rfl

omit [CommRing α] in
/-- **active_product (matrix · vector).** -/
theorem C15_active_product_mv [Add α] [Mul α] [Zero α] (lAct rAct : Bool) (L : Mat α) (x : Vec α) (i : Nat) :
    gemvOps lAct rAct L x i =
      (if lAct then (List.range x.v.d).map (fun l => (x.get l, L.buf, L.v.addr i l)) else []) ++
      (if rAct then (List.range x.v.d).map (fun l => (L.get i l, x.buf, x.v.addr l)) else []) := by
  unfold gemvOps pushDep
  simp only [List.map_map]
  congr 2

omit [CommRing α] in
/-- **tape (matrix · matrix).**  The loop `matmul_(Array<2>,Array<2>)` runs after ?GEMM records, for ALL extents and ALL
    offsets of either sign (transposed, strided, reversed operands; `gl`/`gr` say which operands are active and where
    their gradient blocks lie), one statement per result element in row-major order; the statement of `(i,j)` has the
    left-hand side `gidx C[i,j]` and the operations `(R[k,j], gidx L[i,k])`, `k < n`, if the left operand is active,
    followed by `(L[i,k], gidx R[k,j])`, `k < n`, if the right one is — nothing else. -/
theorem C15_tape_mm [Add α] [Mul α] [Zero α] (gl gr : Grad) (L Rm : Mat α) (ans : View2) :
    gemmRecord gl gr L Rm ans =
      if gl.act || gr.act then
        pairs ans.d0 ans.d1 (fun (i j : Nat) =>
          ({ lhs := ⟨.C, ans.addr i j⟩,
             ops := (if gl.act then (List.range Rm.v.d0).map (fun (k : Nat) => (Rm.get k j, gl.idx (L.v.addr i k))) else []) ++
                    (if gr.act then (List.range Rm.v.d0).map (fun (k : Nat) => (L.get i k, gr.idx (Rm.v.addr k j))) else []) } : Stmt α))
      else [] :=
  gemmRecord_eq gl gr L Rm ans

omit [CommRing α] in
/-- **tape (matrix · vector).**  Same for `matmul_(Array<2>,Array<1>)`; vector · matrix is recorded by the same loop
    on `(right.T(), left)`. -/
theorem C15_tape_mv [Add α] [Mul α] [Zero α] (gl gr : Grad) (L : Mat α) (x : Vec α) (ans : View1) :
    gemvRecord gl gr L x ans =
      if gl.act || gr.act then
        (List.range ans.d).map (fun (i : Nat) =>
          ({ lhs := ⟨.C, ans.addr i⟩,
             ops := (if gl.act then (List.range x.v.d).map (fun (k : Nat) => (x.get k, gl.idx (L.v.addr i k))) else []) ++
                    (if gr.act then (List.range x.v.d).map (fun (k : Nat) => (L.get i k, gr.idx (x.v.addr k))) else []) } : Stmt α))
      else [] :=
  gemvRecord_eq gl gr L x ans

omit [CommRing α] in
/-- **tape (band · active vector).**  For ALL `(dim, LDiags, UDiags)`, both storage orders of the band matrix and any
    stride of the vector the loops of `matmul_band` record, per row `i`, the left-hand side `gidx C[i]` and the
    operations `(B.mem(index(i,k)), gidx x[k])` for `k = j_start … j_end_plus_1−1` (ascending), `index` being
    `BandEngine<Order>::index`; and for a row `i < dim` that range is EXACTLY the set of in-band columns, where
    `B.mem(index(i,k)) = B[i,k]`. -/
theorem C15_tape_band [Add α] [Mul α] [Zero α] (b : Band α) (gr : Grad) (x : Vec α) (ans : View1) :
    bandVRecord b gr x ans =
      (if gr.act then
        (List.range ans.d).map (fun (i : Nat) =>
          ({ lhs := ⟨.C, ans.addr i⟩,
             ops := (List.range (bandJEnd b.ku b.dim i - bandJStart b.kl i)).map (fun (l : Nat) =>
                      (b.mem (b.cell i (bandJStart b.kl i + l)), gr.idx (x.v.addr (bandJStart b.kl i + l)))) } : Stmt α))
      else []) ∧
    ∀ i k, i < b.dim →
      ((bandJStart b.kl i ≤ k ∧ k < bandJEnd b.ku b.dim i) ↔ (k < b.dim ∧ k ≤ i + b.ku ∧ i ≤ k + b.kl)) ∧
      ((k ≤ i + b.ku ∧ i ≤ k + b.kl) → b.mem (b.cell i k) = b.get i k) := by
  refine ⟨bandVRecord_eq b gr x ans, fun i k _ => ⟨band_range_iff _ _ _ i k, fun h => ?_⟩⟩
  unfold Band.get
  rw [if_neg (by omega)]

/-- **the differential of the defining sum.**  In any commutative ring, perturbing the factors of `Σₖ aₖ·bₖ` by
    `ε·da`, `ε·db` changes the sum by `ε·Σₖ (bₖ·daₖ + aₖ·dbₖ)` plus a term in `ε²`: the first-order coefficient — the
    differential — is the linear form with the coefficients `bₖ` on `daₖ` and `aₖ` on `dbₖ`. -/
theorem C15_defining_sum_differential (a b da db : Nat → α) (e : α) (n : Nat) :
    sumTo (fun k => (a k + e * da k) * (b k + e * db k)) n =
      sumTo (fun k => a k * b k) n + e * sumTo (fun k => b k * da k + a k * db k) n + e * e * sumTo (fun k => da k * db k) n := by
  induction n with
  | zero => simp [sumTo]
  | succ n ih => simp only [sumTo, ih]; ring

/-- **a dense statement denotes that differential.**  For any assignment `d` of differentials to gradient indices the
    statement recorded for `(i,j)` (closed form of `C15_tape_mm`) evaluates to
    `Σₖ R[k,j]·d(gidx L[i,k]) + L[i,k]·d(gidx R[k,j])`, the terms of a passive operand dropped. -/
theorem C15_stmt_differential_mm (gl gr : Grad) (L Rm : Mat α) (ans : View2) (i j : Nat) (d : Ptr → α) :
    (({ lhs := ⟨.C, ans.addr i j⟩,
        ops := (if gl.act then (List.range Rm.v.d0).map (fun (k : Nat) => (Rm.get k j, gl.idx (L.v.addr i k))) else []) ++
               (if gr.act then (List.range Rm.v.d0).map (fun (k : Nat) => (L.get i k, gr.idx (Rm.v.addr k j))) else []) } : Stmt α).diff d) =
      sumTo (fun k => (if gl.act then Rm.get k j * d (gl.idx (L.v.addr i k)) else 0) +
                      (if gr.act then L.get i k * d (gr.idx (Rm.v.addr k j)) else 0)) Rm.v.d0 :=
  gemmStmt_diff gl gr L Rm ans i j d

/-- **a band statement denotes the differential over ALL columns.**  The statement of row `i < dim` evaluates to
    `Σ_{k<dim} B[i,k]·d(gidx x[k])`: the columns it omits are exactly those where `B[i,k]` is structurally zero. -/
theorem C15_stmt_differential_band (b : Band α) (gr : Grad) (x : Vec α) (ans : View1) {i : Nat} (hi : i < b.dim) (d : Ptr → α) :
    (({ lhs := ⟨.C, ans.addr i⟩,
        ops := (List.range (bandJEnd b.ku b.dim i - bandJStart b.kl i)).map (fun (l : Nat) =>
                 (b.mem (b.cell i (bandJStart b.kl i + l)), gr.idx (x.v.addr (bandJStart b.kl i + l)))) } : Stmt α).diff d) =
      sumTo (fun k => b.get i k * d (gr.idx (x.v.addr k))) b.dim :=
  band_stmt_diff b gr x ans hi d

/-- **active_derivative (matrix · matrix), end to end.**  Run the tangent-linear sweep (`fwd`, what
    `Stack::compute_tangent_linear` does) over EVERYTHING `matmul_(Array<2>,Array<2>)` records — the element-wise copy
    statements of an operand that is strided in both directions (left, right or both; their gradient blocks `T`
    allocated one after the other from `T+t`) followed by the statements of the result elements — starting from any
    differentials `d`: the gradient index of result element `(i,j)` ends up holding
    `Σₖ R[k,j]·d(gidx L[i,k]) + L[i,k]·d(gidx R[k,j])` with `gidx` of the operands AS PASSED, for all extents, all offsets
    and every activity pattern with at least one active operand.  `GradOutside g A t`: the operand's gradient indices are
    not result indices and, if they are `T` indices (an operand converted by `promote_array`), lie below `t`; operands
    whose gradients live in the caller's blocks `L`, `R` satisfy it for every `t` (`C15_operand_gradients_outside`). -/
theorem C15_active_derivative_mm {pw : Nat} (hpw : 1 ≤ pw) (gl gr : Grad) (t : Int) (L Rm : Mat α)
    (hgl : GradOutside gl L t) (hgr : GradOutside gr Rm t)
    (hact : (gl.act || gr.act) = true) (hkk : L.v.d1 = Rm.v.d0) (d : Ptr → α) {i j : Nat} (hi : i < L.v.d0) (hj : j < Rm.v.d1) :
    fwd (matmulMMTape pw gl gr t L Rm) d ⟨.C, (gemmDense pw (prep pw L) (prep pw Rm)).ans.v.addr i j⟩ =
      sumTo (fun k => (if gl.act then Rm.get k j * d (gl.idx (L.v.addr i k)) else 0) +
                      (if gr.act then L.get i k * d (gr.idx (Rm.v.addr k j)) else 0)) L.v.d1 := by
  obtain ⟨hLa, hLt, hLf, hLe⟩ := prepRecord_spec hpw gl L t hgl d
  obtain ⟨hRa, -, hRf, hRe⟩ := prepRecord_spec hpw gr Rm (prepRecord pw gl L t).2.2 (hgr.mono hLt) (fwd (prepRecord pw gl L t).2.1 d)
  unfold matmulMMTape
  simp only []
  rw [fwd_append, fwd_append]
  generalize prepRecord pw gl L t = pl at *
  generalize prepRecord pw gr Rm pl.2.2 = pr at *
  have hans : (gemmDense pw (prep pw L) (prep pw Rm)).ans.v = packRowMajor pw L.v.d0 Rm.v.d1 := by
    show packRowMajor pw (prep pw L).v.d0 (prep pw Rm).v.d1 = _
    rw [prep_d0, prep_d1]
  show fwd (gemmRecord pl.1 pr.1 (prep pw L) (prep pw Rm) (gemmDense pw (prep pw L) (prep pw Rm)).ans.v) _ _ = _
  rw [hans, gemmRecord_fwd pl.1 pr.1 (fun h => (hLe (hLa ▸ h)).1.1) (fun h => (hRe (hRa ▸ h)).1.1) _ _ (packRowMajor pw L.v.d0 Rm.v.d1)
    (fun _ _ _ _ _ hj _ hj' e => packRowMajor_addr_inj hpw _ _ hj hj' e) (hLa.symm ▸ hRa.symm ▸ hact) _ hi hj,
    prep_d0, ← hkk]
  refine sumTo_congr fun k hk => ?_
  congr 1
  · rw [hLa]
    cases hga : gl.act
    · rfl
    · obtain ⟨hout, hval⟩ := hLe hga
      rw [if_pos rfl, if_pos rfl, prep_get hpw Rm (hkk ▸ hk) hj, hRf _ ((hout.frame (prep_d0 pw L ▸ hi) (prep_d1 pw L ▸ hk)).imp_right Or.inl), hval i k hi hk]
  · rw [hRa]
    cases hga : gr.act
    · rfl
    · rw [if_pos rfl, if_pos rfl, prep_get hpw L hi hk, (hRe hga).2 k j (hkk ▸ hk) hj, hLf _ ((hgr.frame (hkk ▸ hk) hj).imp_right Or.inl)]

/-- **active_derivative (matrix · vector), end to end**, the copy of a doubly strided matrix and the gradient indices of
    the abandoned outer result array included; any stride of the vector (negative: the multipliers are read from
    `const_data()`, not from the BLAS start pointer). -/
theorem C15_active_derivative_mv {pw : Nat} (hpw : 1 ≤ pw) (gl gr : Grad) (t : Int) (L : Mat α) (x : Vec α)
    (hgl : GradOutside gl L t) (hgr : GradOutsideV gr x t)
    (hact : (gl.act || gr.act) = true) (hkk : L.v.d1 = x.v.d) (d : Ptr → α) {i : Nat} (hi : i < L.v.d0) :
    fwd (matmulMVTape pw gl gr t L x) d ⟨.C, (gemvDense (prep pw L) x).ans.v.addr i⟩ =
      sumTo (fun k => (if gl.act then x.get k * d (gl.idx (L.v.addr i k)) else 0) +
                      (if gr.act then L.get i k * d (gr.idx (x.v.addr k)) else 0)) L.v.d1 := by
  unfold matmulMVTape
  simp only []
  -- the abandoned outer result array may have taken `T` indices first
  obtain ⟨t1, ht1, het1⟩ : ∃ t1, t ≤ t1 ∧ (if (needsCopy L.v && (gl.act || gr.act)) = true then t + (L.v.d0 : Int) else t) = t1 := by
    refine ⟨_, ?_, rfl⟩
    split <;> omega
  rw [het1]
  obtain ⟨hLa, -, hLf, hLe⟩ := prepRecord_spec hpw gl L t1 (hgl.mono ht1) d
  rw [fwd_append]
  generalize prepRecord pw gl L t1 = pl at *
  show fwd (gemvRecord pl.1 gr (prep pw L) x { base := 0, d := (prep pw L).v.d0, o := 1 }) _
    ⟨.C, View1.addr { base := 0, d := (prep pw L).v.d0, o := 1 } i⟩ = _
  rw [gemvRecord_fwd pl.1 gr (fun h => (hLe (hLa ▸ h)).1.1) (fun _ => hgr.1) _ _ { base := 0, d := (prep pw L).v.d0, o := 1 } Int.one_ne_zero (hLa.symm ▸ hact) _
    (show i < (prep pw L).v.d0 from (prep_d0 pw L).symm ▸ hi), ← hkk]
  refine sumTo_congr fun k hk => ?_
  congr 1
  · rw [hLa]
    cases hga : gl.act
    · rfl
    · rw [if_pos rfl, if_pos rfl, (hLe hga).2 i k hi hk]
  · cases hga : gr.act
    · rfl
    · have hfr : (gr.idx (x.v.addr k)).buf ≠ .T ∨ (gr.idx (x.v.addr k)).off < t1 ∨ pl.2.2 ≤ (gr.idx (x.v.addr k)).off :=
        (hgr.frame (hkk ▸ hk)).imp_right fun h => Or.inl (Int.lt_of_lt_of_le h ht1)
      rw [if_pos rfl, if_pos rfl, prep_get hpw L hi hk, hLf _ hfr]

/-- **active_derivative (vector · matrix), end to end.** -/
theorem C15_active_derivative_vm {pw : Nat} (hpw : 1 ≤ pw) (gl gr : Grad) (t : Int) (x : Vec α) (Rm : Mat α)
    (hgl : GradOutsideV gl x t) (hgr : GradOutside gr Rm t)
    (hact : (gl.act || gr.act) = true) (hkk : x.v.d = Rm.v.d0) (d : Ptr → α) {j : Nat} (hj : j < Rm.v.d1) :
    fwd (matmulVMTape pw gl gr t x Rm) d ⟨.C, (gemvDense (prep pw Rm.T) x).ans.v.addr j⟩ =
      sumTo (fun k => (if gl.act then Rm.get k j * d (gl.idx (x.v.addr k)) else 0) +
                      (if gr.act then x.get k * d (gr.idx (Rm.v.addr k j)) else 0)) Rm.v.d0 := by
  unfold matmulVMTape
  rw [C15_active_derivative_mv hpw gr gl t Rm.T x hgr.T hgl (by rw [Bool.or_comm]; exact hact)
    (by rw [Mat.T_d1]; exact hkk.symm) d (by rw [Mat.T_d0]; exact hj)]
  show sumTo _ Rm.v.d0 = _
  refine sumTo_congr fun k _ => ?_
  rw [Mat.T_get, show Rm.T.v.addr j k = Rm.v.addr k j from View2.T_addr Rm.v j k, add_comm]

/-- **active_derivative (band · active vector and active vector · band), end to end**: for every `(dim, LDiags, UDiags)`,
    both storage orders and any stride of the vector the sweep leaves `Σ_{k<dim} B[i,k]·d(gidx x[k])` in the gradient
    index of result element `i`, resp. `Σ_{k<dim} B[k,i]·d(gidx x[k])` for the vector · band form, which matmul.h records
    through the transposed description of the band matrix (other storage order, `LDiags` and `UDiags` exchanged). -/
theorem C15_active_derivative_band (b : Band α) (g : Grad) (hg : g.blk ≠ .C) (x : Vec α) (hact : g.act = true)
    (hd : b.dim = x.v.d) (d : Ptr → α) {i : Nat} (hi : i < b.dim) :
    fwd (matmulBandVTape b g x) d ⟨.C, (bandVCore b x).ans.v.addr i⟩ = sumTo (fun k => b.get i k * d (g.idx (x.v.addr k))) b.dim ∧
    fwd (matmulVBandTape g x b) d ⟨.C, (bandVCore b.T x).ans.v.addr i⟩ = sumTo (fun k => b.get k i * d (g.idx (x.v.addr k))) b.dim := by
  have hb : ∀ (b : Band α) {i : Nat}, i < b.dim → b.dim = x.v.d →
      fwd (matmulBandVTape b g x) d ⟨.C, (bandVCore b x).ans.v.addr i⟩ = sumTo (fun k => b.get i k * d (g.idx (x.v.addr k))) b.dim :=
    fun b _ hi hd => bandVRecord_fwd b g hg x { base := 0, d := x.v.d, o := 1 } Int.one_ne_zero hact d (hd ▸ hi) hi
  refine ⟨hb b hi hd, ?_⟩
  unfold matmulVBandTape
  rw [hb b.T (by rw [Band.T_dim]; exact hi) (by rw [Band.T_dim]; exact hd)]
  show sumTo _ b.dim = _
  exact sumTo_congr fun k _ => by rw [Band.T_get]

-- the statement carries the section's `[CommRing α]` without using it
set_option linter.unusedSectionVars false in
/-- **operands of the caller.**  An operand whose gradient block is the left or the right parent's satisfies the
    hypothesis of the `active_derivative` theorems for every `t`. -/
theorem C15_operand_gradients_outside {g : Grad} (hg : g.blk = .L ∨ g.blk = .R) (A : Mat α) (x : Vec α) (t : Int) :
    GradOutside g A t ∧ GradOutsideV g x t :=
  ⟨GradOutside.of_operand hg A t, GradOutsideV.of_operand hg x t⟩

/-- **conversion statements (`promote_array`, copies).**  The element-wise evaluation of an active expression, special
    matrix or doubly strided array into a fresh packed `d0 × d1` array with gradient block `T+t …` (`convRecord`: one
    statement per element, operations `src i k`, which do not read what the conversion assigns): after the sweep the
    gradient index of element `(i,k)` holds `Σ src i k` and nothing outside `T ∩ [t, t + offset(0)·d0)` has changed. -/
theorem C15_conversion_statements {pw : Nat} (hpw : 1 ≤ pw) (d0 d1 : Nat) (t : Int) (src : Nat → Nat → List (α × Ptr))
    (hsrc : ∀ i k, i < d0 → k < d1 → ∀ op ∈ src i k, op.2.buf ≠ .T ∨ op.2.off < t) (d : Ptr → α) :
    (∀ p : Ptr, (p.buf ≠ .T ∨ p.off < t ∨ t + (packRowMajor pw d0 d1).o0 * (d0 : Int) ≤ p.off) →
        fwd (convRecord (packRowMajor pw d0 d1) t d0 d1 src) d p = d p) ∧
    (∀ i k, i < d0 → k < d1 →
        fwd (convRecord (packRowMajor pw d0 d1) t d0 d1 src) d ⟨.T, t + (packRowMajor pw d0 d1).addr i k⟩ =
          (src i k).foldr (fun p acc => p.1 * d p.2 + acc) 0) :=
  convRecord_spec hpw d0 d1 t src hsrc d

/-- **active_derivative through a conversion.**  An ACTIVE left operand that `promote_array` evaluated element-wise into
    the fresh array `X` (values `lval`, statements `src`: `[(2, gidx A[i,k])]` for `2.0*A`, `[(1,·),(1,·)]` for `A+A`,
    `[(1, gidx S[i,k])]` resp. `[]` for a stored resp. structurally zero element of a special matrix) times any dense
    matrix: the sweep over the conversion statements followed by everything the product records leaves
    `Σₖ R[k,j]·(Σ src i k) + X[i,k]·d(gidx R[k,j])` — the differentials flow through the conversion whatever its
    operations are.  (The other forms follow in the same way from `C15_conversion_statements` and the
    `active_derivative` theorems, whose hypotheses allow converted operands.) -/
theorem C15_active_derivative_promoted_mm {pw : Nat} (hpw : 1 ≤ pw) (d0 d1 : Nat) (lval : Nat → Nat → α)
    (src : Nat → Nat → List (α × Ptr)) (hsrc : ∀ i k, i < d0 → k < d1 → ∀ op ∈ src i k, op.2.buf ≠ .T ∨ op.2.off < 0)
    (gr : Grad) (hgr : gr.blk = .L ∨ gr.blk = .R) (Rm : Mat α) (hkk : d1 = Rm.v.d0) (d : Ptr → α)
    {i j : Nat} (hi : i < d0) (hj : j < Rm.v.d1) :
    fwd (convRecord (packRowMajor pw d0 d1) 0 d0 d1 src ++
         matmulMMTape pw ⟨true, .T, 0⟩ gr ((packRowMajor pw d0 d1).o0 * (d0 : Int)) (freshMat pw d0 d1 lval) Rm) d
        ⟨.C, (gemmDense pw (prep pw (freshMat pw d0 d1 lval)) (prep pw Rm)).ans.v.addr i j⟩ =
      sumTo (fun k => Rm.get k j * (src i k).foldr (fun p acc => p.1 * d p.2 + acc) 0 +
                      (if gr.act then lval i k * d (gr.idx (Rm.v.addr k j)) else 0)) d1 := by
  obtain ⟨hfr, hval⟩ := convRecord_spec hpw d0 d1 0 src hsrc d
  have hgl : GradOutside (⟨true, .T, 0⟩ : Grad) (freshMat pw d0 d1 lval) ((packRowMajor pw d0 d1).o0 * (d0 : Int)) := by
    refine ⟨by decide, fun _ i k hi hk => ?_⟩
    have hb := packRowMajor_addr_bound hpw (show i < d0 from hi) (show k < d1 from hk)
    show 0 + (packRowMajor pw d0 d1).addr i k < _
    omega
  rw [fwd_append, C15_active_derivative_mm hpw ⟨true, .T, 0⟩ gr _ (freshMat pw d0 d1 lval) Rm hgl (GradOutside.of_operand hgr _ _)
    rfl (by exact hkk) _ (by exact hi) hj]
  show sumTo _ d1 = _
  refine sumTo_congr fun k hk => ?_
  rw [if_pos rfl]
  congr 1
  · exact congrArg _ (hval i k hi hk)
  · cases gr.act
    · rfl
    · rw [if_pos rfl, if_pos rfl, freshMat_get hpw d0 d1 lval hi hk, hfr _ (Or.inl (blk_ne_T hgr))]

/-! ## non-vacuity

The hypotheses are met by ordinary operands; two concrete instances over `Int` in which the model is evaluated:
the witness of F-13 (`A ** v(stride(2,0,-1))`, reversed part of a longer vector) and of F-14
(`A(stride(2,0,-1),__).T() ** v`).  The results are the true products. -/

private def memA : Int → Int := fun p => [1, 2, 3, 4, 5, 6, 7, 8, 10].getD p.toNat 0
private def memBig : Int → Int := fun p => [-9, -9, 1, 10, 100, -7, -7].getD p.toNat 0
private def memV : Int → Int := fun p => [1, 10, 100].getD p.toNat 0

example :
    (match matmulMV 2 { v := { base := 0, d0 := 3, d1 := 3, o0 := 3, o1 := 1 }, mem := memA, buf := .L }
                      { v := { base := 4, d := 3, o := -1 }, mem := memBig, buf := .R } with
     | .ok o => [o.ans.get 0, o.ans.get 1, o.ans.get 2] | .error _ => []) = [123, 456, 790] := by decide

example :
    (match matmulMV 2 { v := { base := 6, d0 := 3, d1 := 3, o0 := 1, o1 := -3 }, mem := memA, buf := .L }
                      { v := { base := 0, d := 3, o := 1 }, mem := memV, buf := .R } with
     | .ok o => [o.ans.get 0, o.ans.get 1, o.ans.get 2] | .error _ => []) = [147, 258, 370] := by decide

/-- an active doubly strided left operand (every second column of a 2×4 row-major array: copied) times an active
    column-major 2×2 matrix: the sweep over copy + product statements leaves `∂C[0,0]/∂L[0,1] = R[1,0] = 2` and
    `∂C[1,1]/∂R[0,1] = L[1,0] = 5` -/
example :
    let Lx : Mat Int := { v := { base := 0, d0 := 2, d1 := 2, o0 := 4, o1 := 2 }, mem := fun p => [1, 2, 3, 4, 5, 6, 7, 8].getD p.toNat 0, buf := .L }
    let Rx : Mat Int := { v := { base := 0, d0 := 2, d1 := 2, o0 := 1, o1 := 2 }, mem := fun p => [1, 2, 3, 4].getD p.toNat 0, buf := .R }
    (matmulMMTape 2 ⟨true, .L, 0⟩ ⟨true, .R, 0⟩ 0 Lx Rx).length = 8 ∧
    fwd (matmulMMTape 2 ⟨true, .L, 0⟩ ⟨true, .R, 0⟩ 0 Lx Rx) (fun p => if p = ⟨.L, 2⟩ then 1 else 0) ⟨.C, 0⟩ = 2 ∧
    fwd (matmulMMTape 2 ⟨true, .L, 0⟩ ⟨true, .R, 0⟩ 0 Lx Rx) (fun p => if p = ⟨.R, 2⟩ then 1 else 0) ⟨.C, 3⟩ = 5 := by decide

/-- the active expression `2.0*A` (A row-major 1×2 with the cells `[3, 4]`) times a passive 2×1 matrix `[5, 6]ᵀ`: conversion
    statements `T+k = 2·L+k`, then `C+0 = 5·T+0 + 6·T+1`; `∂C[0,0]/∂A[0,1] = 2·6 = 12` -/
example :
    let Rx : Mat Int := { v := { base := 0, d0 := 2, d1 := 1, o0 := 1, o1 := 1 }, mem := fun p => [5, 6].getD p.toNat 0, buf := .R }
    fwd (convRecord (packRowMajor 2 1 2) 0 1 2 (fun _ k => [((2 : Int), (⟨.L, (k : Int)⟩ : Ptr))]) ++
         matmulMMTape 2 ⟨true, .T, 0⟩ ⟨false, .R, 0⟩ 2 (freshMat 2 1 2 (fun _ k => 2 * [3, 4].getD k 0)) Rx)
      (fun p => if p = ⟨.L, 1⟩ then 1 else 0) ⟨.C, 0⟩ = 12 := by decide

/-- a passive row-major band matrix with one sub- and two super-diagonals times a reversed active vector: row 2 of the
    3×3 matrix has the in-band columns 1, 2 only -/
example :
    let bx : Band Int := { base := 0, rowMajor := true, kl := 1, ku := 2, dim := 3, off := 3, mem := fun p => [1, 2, 3, 4, 5, 6, 7, 8, 9].getD p.toNat 0, buf := .L }
    let xx : Vec Int := { v := { base := 2, d := 3, o := -1 }, mem := fun p => [5, 6, 7].getD p.toNat 0, buf := .R }
    ((matmulBandVTape bx ⟨true, .R, 0⟩ xx).map (fun s => s.ops.length)) = [3, 3, 2] ∧
    fwd (matmulBandVTape bx ⟨true, .R, 0⟩ xx) (fun p => if p = ⟨.R, 0⟩ then 1 else 0) ⟨.C, 2⟩ = 9 := by decide

end Adept.Matmul
