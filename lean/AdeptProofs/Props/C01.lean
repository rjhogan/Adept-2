import AdeptProofs.Lemmas.ExprProg
/-!
# C01 — reverse-mode gradients equal the true derivatives of the recorded program

The property theorems; the lemmas under them are in `AdeptProofs/Lemmas/Expr{Real,Unary,Binary,Tree,Prog}.lean`.
Everything is about `AdeptModel/Expr.lean` (the transcription of `Active.h`, `Expression.h`, the node templates of
`UnaryOperation.h` / `BinaryOperation.h`, `noalias.h`) instantiated at ℝ, and about the tables
`AdeptModel/Generated/UnaryTable.lean`, `BinaryTable.lean`, which `translate/unary.py` and `translate/binary.py`
REGENERATE from the headers on every run of the check: the theorems are then about the tables as the headers give them.
The correspondence check (checks/c01.py) ties the model to the C++ on generated programs.

What each real function *is* (erf as its integral, atan2 as the complex argument, cbrt, the rounding functions with
C tie rules, decimal literals ↦ exact constants) is fixed in `Lemmas/ExprReal.lean`; the derivative of `erf` is proved there from the fundamental theorem of calculus.

Branching programs: a recording is the straight-line trace of the branch taken; T4/T5 are about that trace and equal
the derivative of the branching program wherever the branch conditions are locally constant (not modelled).
Rounding is not modelled: the theorems are over ℝ.
-/
namespace Adept.Expr
open Adept Adept.Tape

/-- **T0.** For EVERY entry `f` of the generated unary table and every `x` in the open domain of `f`
    (`0 < x` for log*/sqrt, `|x| < 1` for asin acos atanh, `1 < x` for acosh, `cos x ≠ 0` for tan, `x ≠ 0` for abs fabs
    cbrt `!`, non-integers for ceil floor trunc, non-half-integers for round rint nearbyint, `-1 < x` for log1p):
    the C++ derivative expression, evaluated at `val = x`, `result = f x`, is the derivative of `f` at `x`. -/
theorem C01_unary_table_sound (f : UFun) (x : ℝ) (hx : f.dom x) :
    HasDerivAt (UFun.fn f) (UFun.dexpr f x (UFun.fn f x)) x := unary_table_sound f x hx

/-- **T1 (values).** `value_stored_<·,k>` after `value_at_location_store_<·,k>` returns the value of the tree,
    for every tree, every slot `k` and every initial (uninitialised) scratch content. -/
theorem C01_store_stored (n : Node ℝ) (k : Nat) (s : Scratch ℝ) : n.stored k (n.store k s).2 = n.eval :=
  store_stored n k s

/-- **T1 (frame).** The store path writes only the slots `[k, k + n_scratch)` it owns. -/
theorem C01_store_frame (n : Node ℝ) (k : Nat) (s : Scratch ℝ) (j : Nat) (hj : j < k ∨ k + n.nScratch ≤ j) :
    (n.store k s).2 j = s j := (store_spec n k s).2.1 j hj

/-- **T6.** The value a recording statement computes (`scalar_value_and_gradient`, with `a/b` evaluated as
    `a * (1/b)`) is the plain evaluation of the same expression. -/
theorem C01_values_plain (e : Node ℝ) (init : Scratch ℝ) : (e.valueAndGradient init).1 = e.eval :=
  valueAndGradient_fst e init

/-- **T2 (table).** In each policy the `calc_left/calc_right` overloads WITH an incoming multiplier hand down `m ×`
    what the overloads without hand down, under the same guard. -/
theorem C01_mul_linear (op : BOp) (m L R RES AUX : ℝ) :
    ((op.leftMul (some m) L R RES AUX).getD 1 = m * (op.leftMul none L R RES AUX).getD 1 ∧
     (op.rightMul (some m) L R RES AUX).getD 1 = m * (op.rightMul none L R RES AUX).getD 1) ∧
    (op.leftGuard true L R = op.leftGuard false L R ∧ op.rightGuard true L R = op.rightGuard false L R) :=
  ⟨leftMul_rightMul_linear op m L R RES AUX, guard_withM_eq op L R⟩

/-- **T2 (trees).** For every tree, slot and scratch content, `calc_gradient_` with multiplier `m` pushes `m ×` what
    `calc_gradient_` without multiplier pushes (as linear forms in the gradients). -/
theorem C01_grad_linear (n : Node ℝ) (k : Nat) (s : Scratch ℝ) (m : ℝ) (g : Nat → ℝ) :
    dotOps (n.grad k s (some m)) g = m * dotOps (n.grad k s none) g := grad_linear n k s (some m) g

/-- **T2 (partials).** The generated binary multiplier formulas are the partial derivatives of the operation
    (`a/b` with the stored `1/b`, `atan2` with the stored `1/(l²+r²)`): on the open domain (`r ≠ 0` for `/`, `0 < l` for
    `pow`, `r + l·i` off the closed negative real axis for `atan2`, `l ≠ r` for max/min). -/
theorem C01_bin_partials (op : BOp) (L R : ℝ) (hd : op.dom L R) :
    HasDerivAt (fun x => op.operation false x R) (op.dL L R) L ∧
    HasDerivAt (fun y => op.operation false L y) (op.dR L R) R := bin_partials op L R hd

/-- **T2 (chain rule form).** Along any differentiable pair of arguments the operation has derivative `dL·l' + dR·r'`. -/
theorem C01_bin_chain (op : BOp) {l r : ℝ → ℝ} {l' r' t : ℝ} (hl : HasDerivAt l l' t) (hr : HasDerivAt r r' t)
    (hd : op.dom (l t) (r t)) :
    HasDerivAt (fun s => op.operation false (l s) (r s)) (op.dL (l t) (r t) * l' + op.dR (l t) (r t) * r') t :=
  bin_chain op hl hr hd

/-- Tie behaviour of `max` (NOT a derivative: none exists at a tie): everything goes to the right operand. -/
theorem C01_max_tie (x : ℝ) : BOp.dL .Max x x = 0 ∧ BOp.dR .Max x x = 1 :=
  ⟨(dL_Max x x).trans (if_neg (lt_irrefl x)), (dR_Max x x).trans (if_pos (le_refl x))⟩
/-- Tie behaviour of `min`: everything goes to the left operand. -/
theorem C01_min_tie (x : ℝ) : BOp.dL .Min x x = 1 ∧ BOp.dR .Min x x = 0 :=
  ⟨(dL_Min x x).trans (if_pos (le_refl x)), (dR_Min x x).trans (if_neg (lt_irrefl x))⟩

/-- The `int`-operand overloads of max/min (`left < right ? …`) are the same functions as fmax/fmin. -/
theorem C01_operation_mixed (op : BOp) (L R : ℝ) : op.operation true L R = op.operation false L R :=
  operation_any op true L R

/-- **T3.** For any curve of inputs `γ` differentiable at `t₀` and any well-formed tree that is in domain at `t₀`:
    the value of the tree along the curve is differentiable and its derivative is `Σ_{(m,i) ∈ grad} m · γ'ᵢ`, where
    `grad` is what `calc_gradient_<·,k>` pushes after `value_at_location_store_<·,k>` (any slot `k`, any initial scratch). -/
theorem C01_grad_hasDerivAt (γ : ℝ → Nat → ℝ) (γ' : Nat → ℝ) (t₀ : ℝ)
    (hγ : ∀ i, HasDerivAt (fun t => γ t i) (γ' i) t₀) (n : Node ℝ) (k : Nat) (s : Scratch ℝ)
    (hwf : (n.rebind (γ t₀)).wf = true) (hdom : (n.rebind (γ t₀)).dom) :
    HasDerivAt (fun t => (n.rebind (γ t)).eval)
      (dotOps ((n.rebind (γ t₀)).grad k ((n.rebind (γ t₀)).store k s).2 none) γ') t₀ :=
  grad_hasDerivAt γ γ' t₀ hγ n k _ hwf hdom (store_ScrOK _ k s)

/-- **T4.** Straight-line programs (assignments of expressions incl. copies and unpacked compound operators,
    (re)initialisation with passive values, passive `+=`/`-=`; slots may be reused): along any differentiable curve of
    initial values, every final value is differentiable and its derivative is the tangent-linear sweep of the recorded
    tape applied to the velocity of the curve. -/
theorem C01_program_tangent (P : List PStmt) (γ : ℝ → Nat → ℝ) (γ' : Nat → ℝ) (t₀ : ℝ)
    (hγ : ∀ i, HasDerivAt (fun t => γ t i) (γ' i) t₀) (hdom : ProgDom P (γ t₀)) (i : Nat) :
    HasDerivAt (fun t => run P (γ t) i) (fwdF (tapeOf P (γ t₀)) γ' i) t₀ := program_tangent P γ γ' t₀ hγ hdom i

/-- The tangent sweep on functions used in T4 is `Stack::compute_tangent_linear` of `AdeptModel/Tape.lean`. -/
theorem C01_fwdF_is_tape_fwd (N : Nat) (t : List (Stmt ℝ)) (g : Vec ℝ) (hwf : WF t N) (hg : g.length = N) :
    rd (fwd t g) = fwdF t (rd g) := rd_fwd N t g hwf hg

/-- **T5.** Seeding output slot `y` with 1 and running `Stack::compute_adjoint` over the recorded tape leaves at input
    slot `x` the partial derivative of the final value of `y` with respect to the initial value of `x`. -/
theorem C01_adjoint_is_gradient (P : List PStmt) (env₀ : Nat → ℝ) (N x y : Nat) (hx : x < N) (hy : y < N)
    (hwf : WF (tapeOf P env₀) N) (hdom : ProgDom P env₀) :
    HasDerivAt (fun τ => run P (updF env₀ x τ) y) (rd (rev (tapeOf P env₀) (unit N y)) x) (env₀ x) := by
  have h := adjoint_is_gradient P env₀ N x y hx hy hwf hdom
  rwa [jacEntryRev] at h

/-- The statement forms of the executable model (`St.assign`, used for `x = e`, copies, construction from an expression
    and the unpacked compound operators) append exactly the statement T4 reasons about and store the plain value. -/
theorem C01_assign_records (s : St ℝ) (h : Nat) (x : Var ℝ) (e : Node ℝ) (init : Scratch ℝ) (hp : s.pend = []) :
    (s.assign h x e init).tape = s.tape ++ [⟨x.idx, (e.valueAndGradient init).2⟩] ∧
    (s.assign h x e init).pend = [] ∧
    ((s.assign h x e init).var? h).map (fun v => (v.idx, v.val)) = some (x.idx, e.eval) :=
  ⟨by simp [St.assign, St.pushRhs, St.pushLhs, St.setVar, hp], by simp [St.assign, St.pushRhs, St.pushLhs, St.setVar],
    by simp [St.assign, St.pushRhs, St.pushLhs, St.setVar, St.var?, valueAndGradient_fst]⟩

/-! Non-vacuity: the hypotheses are satisfiable on non-trivial instances. -/
example : UFun.dom .Log (2:ℝ) := two_pos
example : UFun.dom .Round (0.25:ℝ) := by
  intro n h
  have h' : ((4 * n + 1 : ℤ) : ℝ) = 0 := by
    push_cast
    rw [show (n : ℝ) = 0.25 - 1 / 2 from eq_sub_of_add_eq h.symm]
    norm_num
  have := Int.cast_eq_zero.mp h'
  omega
example : BOp.dom .Atan2 (1:ℝ) (-1) := Or.inr one_ne_zero
example : (Node.bin .Divide (.active 0 (2:ℝ)) (.un .Exp (.active 1 0))).dom :=
  ⟨trivial, ⟨trivial, trivial⟩, (Real.exp_pos 0).ne'⟩
example : (Node.binR .Multiply false (.noalias (.active 0 (2:ℝ))) 3).wf = true := rfl
example : (Node.binR .Pow true (.active 0 (-2:ℝ)) 3).dom :=
  ⟨trivial, Or.inr ⟨rfl, neg_ne_zero.mpr two_ne_zero, 3, by norm_num⟩⟩
example : ProgDom [.assign 2 (.bin .Multiply (.active 0 0) (.noalias (.active 1 0))), .shift 2 1, .passive 0 5]
    (fun _ => (1:ℝ)) :=
  ⟨rfl, ⟨trivial, trivial, trivial⟩, trivial⟩

/-- **Branches on comparisons.**  `if (L OP R) x = e1; else x = e2;` with `L`, `R` active expressions or passive numbers in any
    combination: over ℝ each of the six operators decides the relation it denotes between the VALUES of its two sides, taken
    in the order written (`c < x` is `c < x`, not `x < c`), and the recording is exactly the assignment of the selected branch —
    so T4/T5 apply to the trace, whichever branch each comparison selects. -/
theorem C01_branch_is_selected_assignment (s : St ℝ) (h : Nat) (x : Var ℝ) (o : CmpOp) (l r : CmpSide ℝ)
    (e1 e2 : Node ℝ) (init : Scratch ℝ) :
    (o.holds l.value r.value = true ↔
      (match o with
       | .lt => l.value < r.value | .gt => l.value > r.value | .le => l.value ≤ r.value
       | .ge => l.value ≥ r.value | .eq => l.value = r.value | .ne => l.value ≠ r.value)) ∧
    s.branch h x o l r e1 e2 init =
      (if o.holds l.value r.value = true then s.assign h x e1 init else s.assign h x e2 init) := by
  refine ⟨?_, rfl⟩
  cases o with
  | lt | gt | le | ge => exact decide_eq_true_iff
  | eq =>
    show (decide (l.value ≤ r.value) && decide (r.value ≤ l.value)) = true ↔ l.value = r.value
    rw [Bool.and_eq_true, decide_eq_true_iff, decide_eq_true_iff]
    exact le_antisymm_iff.symm
  | ne =>
    show (!(decide (l.value ≤ r.value) && decide (r.value ≤ l.value))) = true ↔ l.value ≠ r.value
    rw [Bool.not_eq_true', Bool.and_eq_false_iff, decide_eq_false_iff_not, decide_eq_false_iff_not]
    exact not_and_or.symm.trans (not_congr le_antisymm_iff.symm)

/-- non-vacuity: `2 < x` at `x = 3` selects the first branch, `x < 2` does not -/
example : CmpOp.holds .lt (CmpSide.num (2 : ℝ)).value (CmpSide.num (3 : ℝ)).value = true ∧
    CmpOp.holds .lt (CmpSide.num (3 : ℝ)).value (CmpSide.num (2 : ℝ)).value = false := by
  norm_num [CmpOp.holds, CmpSide.value]

end Adept.Expr
