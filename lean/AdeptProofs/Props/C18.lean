import AdeptProofs.Lemmas.Minimizer
/-!
# C18 — the minimizer never leaves the box and reports what it actually reached (exact-arithmetic part)

Property theorems only; helper lemmas live in `AdeptProofs/Lemmas/Minimizer.lean`.  All statements are about
`AdeptModel/MinimizerLogic.lean`, the transcription of the bounded minimizers and of `line_search` after the fixes
F-17, F-18, F-20, F-60, F-61, F-63; the decision functions of that model are re-evaluated against the decisions
logged by the real code on every run (hook H4, checks/c18.py).

Everything is proved over an arbitrary linear ordered field (exact arithmetic) and for ARBITRARY cost / gradient
oracles `f`, norms `nrm` (only `0 ≤ nrm v` is used), cubic steps `cubic`, direction strategies `D` and Newton steps.
What exact arithmetic cannot show (rounding of `x + (a*s)*d` at a face, finding F-19) is observed by the check.
-/
namespace Adept.Minimizer
-- fixed statements below carry `δ` and order instances they do not use
set_option linter.unusedSectionVars false

variable {α : Type} [Field α] [LinearOrder α] [IsStrictOrderedRing α] {δ : Type}

/-- a start outside the box is first moved onto it: the projected start satisfies `lower ≤ x ≤ upper`,
    and is the start itself when that already lies in the box -/
theorem C18_start_projected {n : Nat} {lo up : Vec α} (hv : ValidBounds n lo up) (x0 : Vec α) :
    Box n lo up (project lo up x0) ∧ (Box n lo up x0 → ∀ i < n, project lo up x0 i = x0 i) :=
  ⟨project_box hv x0, project_of_box⟩

/-- the initial bound flags are truthful: a variable flagged ∓1 lies on that face of the projected start -/
theorem C18_flags_truthful_init {n : Nat} {lo up : Vec α} (hv : ValidBounds n lo up) (x0 : Vec α) :
    FlagsTrue n lo up (project lo up x0) (initBoundStatus lo up x0) :=
  initBoundStatus_true hv x0

/-- every step length `line_search` hands to the user's function, and the step it finally takes, is non-negative
    and, when a bound step length is given (`bound ≥ 0`), at most that length — for any cost function, any cubic
    step formula, any settings -/
theorem C18_ls_steps_within_bound (P : LSParams α) (phi : α → LSample α) (cubic : LSState α → α)
    (bound step0 cost0 grad0 curv : α) (u0 : Int) (hstep : 0 ≤ step0) :
    (∀ t ∈ (lineSearch P phi cubic bound step0 cost0 grad0 curv u0).evals, 0 ≤ t ∧ (0 ≤ bound → t ≤ bound)) ∧
    (0 ≤ (lineSearch P phi cubic bound step0 cost0 grad0 curv u0).t ∧
      (0 ≤ bound → (lineSearch P phi cubic bound step0 cost0 grad0 curv u0).t ≤ bound)) :=
  let h := lineSearch_post P phi cubic bound step0 cost0 grad0 curv u0 hstep
  ⟨h.evals, h.t_ok⟩

/-- `line_search` terminates: both loops run on one counter that every pass decrements (after F-17), so the
    user's function is called at most `max_line_search_iterations_ + 1` times -/
theorem C18_ls_terminates (P : LSParams α) (phi : α → LSample α) (cubic : LSState α → α)
    (bound step0 cost0 grad0 curv : α) (u0 : Int) :
    (lineSearch P phi cubic bound step0 cost0 grad0 curv u0).evals.length ≤ P.maxIter + 1 := by
  unfold lineSearch
  rcases lsInit P bound step0 grad0 with ⟨_ | s, ss2, atB⟩
  · exact lsBracket_evals P phi cubic bound _ cost0 grad0 curv cost0 step0 _ P.maxIter _ (Nat.le_refl _)
  · exact Nat.zero_le _

/-- `line_search` reports `BOUND_REACHED` only if it has moved exactly onto the bound step, or the bound step has
    length zero and nothing was moved (F-60) -/
theorem C18_ls_bound_reached_means (P : LSParams α) (phi : α → LSample α) (cubic : LSState α → α)
    (bound step0 cost0 grad0 curv : α) (u0 : Int) (hstep : 0 ≤ step0) :
    (lineSearch P phi cubic bound step0 cost0 grad0 curv u0).exit = .boundReached →
      0 ≤ bound ∧
      (((lineSearch P phi cubic bound step0 cost0 grad0 curv u0).moved = true ∧
          (lineSearch P phi cubic bound step0 cost0 grad0 curv u0).t = bound) ∨
       ((lineSearch P phi cubic bound step0 cost0 grad0 curv u0).moved = false ∧ bound = 0)) :=
  (lineSearch_post P phi cubic bound step0 cost0 grad0 curv u0 hstep).boundExit

/-- the nearest-bound loop returns a step length not larger than the distance to ANY face a variable moves towards,
    and the variable it names attains it -/
theorem C18_nearest_bound (n : Nat) (big nd : α) (x d lo up : Vec α) :
    (∀ j < n, (d j > 0 ∧ up j < big → (nearestBound n big nd x d lo up).b ≤ nd * (up j - x j) / d j) ∧
              (d j < 0 ∧ lo j > -big → (nearestBound n big nd x d lo up).b ≤ nd * (lo j - x j) / d j)) ∧
    (∀ i, (nearestBound n big nd x d lo up).idx = some i → i < n ∧
      (((nearestBound n big nd x d lo up).ty = 1 ∧ d i > 0 ∧ up i < big ∧
          (nearestBound n big nd x d lo up).b = nd * (up i - x i) / d i) ∨
       ((nearestBound n big nd x d lo up).ty = -1 ∧ d i < 0 ∧ lo i > -big ∧
          (nearestBound n big nd x d lo up).b = nd * (lo i - x i) / d i))) :=
  let h := nearestBound_spec n big nd x d lo up
  ⟨h.2, h.1.2.2⟩

/-- **feasible_always** (line-search minimizers).  For any cost function `f`, any direction strategy `D` whose step
    sizes stay non-negative, any start and any valid bounds: every state handed to the user's callbacks during
    `minimize_*_bounded`, and the state returned, satisfies every bound that is not the `±max` sentinel.
    `hsent` is the trace hypothesis on the sentinel (`NBExact`): in every pass the nearest-bound loop registered a
    face whenever a variable was moving towards a real bound (it does unless that distance exceeds `max`). -/
theorem C18_feasible_always (S : Settings α) (f : Vec α → Sample α) (nrm : Vec α → α) (cubic : LSState α → α)
    (D : DirStrategy α δ) (x0 : Vec α) (d0 : δ) (step0 : α) (passes : Nat)
    (hv : boundsInvalid S.n S.lo S.up = false) (hn : ∀ v, 0 ≤ nrm v) (hD : DirOK D) (h0 : 0 ≤ step0)
    (hsent : ∀ k, SentOK S nrm D (lsRelease S nrm D (lsEval f (lsIter S f nrm cubic D (lsStart S x0 d0 step0) k)))) :
    (∀ c ∈ (lsMinimize S f nrm cubic D x0 d0 step0 passes).calls, InBox S.big S.n S.lo S.up c) ∧
    InBox S.big S.n S.lo S.up (lsMinimize S f nrm cubic D x0 d0 step0 passes).x := by
  unfold lsMinimize
  rw [hv]
  simp only [Bool.false_eq_true, ↓reduceIte]
  have hvb := boundsInvalid_false_iff.mp hv
  have h := lsEpilogue_inv f
    (loopN_inv (fun k ih => lsPass_inv f cubic hn hD (hsent k) ih) (lsStart_inv hvb x0 d0 h0) passes)
  exact ⟨h.2.1, h.1⟩

/-- the Conjugate-Gradient strategies keep step sizes non-negative, so `C18_feasible_always` applies to them -/
theorem C18_cg_strategy_ok (n : Nat) (fr : Bool) : DirOK (cgStrategy (α := α) n fr) :=
  ⟨fun ds it _ _ _ hs => iteInduction (motive := fun r : Vec α × CGState α × α => 0 ≤ r.2.2)
      (fun (_ : (ds.doRestart || decide (it - ds.lastRestart > n)) = true) => hs) fun _ => hs,
    fun s hs => show 0 ≤ s * 2.0 from mul_nonneg hs (by norm_num)⟩

/-- **invalid_bounds**: bounds with `lower ≥ upper` somewhere are answered with the documented status, without
    calling the user's function and without touching the state -/
theorem C18_invalid_bounds (S : Settings α) (f : Vec α → Sample α) (nrm : Vec α → α) (cubic : LSState α → α)
    (D : DirStrategy α δ) (x0 : Vec α) (d0 : δ) (step0 : α) (passes : Nat)
    (hv : boundsInvalid S.n S.lo S.up = true) :
    (lsMinimize S f nrm cubic D x0 d0 step0 passes).status = .invalidBounds ∧
    (lsMinimize S f nrm cubic D x0 d0 step0 passes).calls = [] ∧
    (lsMinimize S f nrm cubic D x0 d0 step0 passes).x = x0 := by
  unfold lsMinimize
  rw [hv]
  exact ⟨rfl, rfl, rfl⟩

/-- **iterations_bounded** (outer loop): the iteration counter never exceeds the number of passes made, and while
    the status is still "not yet converged" the number of passes is below `max_iterations` -/
theorem C18_iterations_bounded (S : Settings α) (f : Vec α → Sample α) (nrm : Vec α → α) (cubic : LSState α → α)
    (D : DirStrategy α δ) (x0 : Vec α) (d0 : δ) (step0 : α) (k : Nat) :
    (lsIter S f nrm cubic D (lsStart S x0 d0 step0) k).nIter ≤ k ∧
    ((lsIter S f nrm cubic D (lsStart S x0 d0 step0) k).status = .notYet → 0 < k → (k : Int) < S.maxIter) :=
  let h := lsIter_count S f nrm cubic D (lsStart S x0 d0 step0) rfl k
  ⟨h.1, fun hs hk => (h.2 hs).2 hk⟩

/-- **terminates** (outer loop): after `N ≥ max(max_iterations, 1)` passes the status is no longer "not yet
    converged"; further passes change nothing, so `n_iterations_` stays at most `N` -/
theorem C18_terminates (S : Settings α) (f : Vec α → Sample α) (nrm : Vec α → α) (cubic : LSState α → α)
    (D : DirStrategy α δ) (x0 : Vec α) (d0 : δ) (step0 : α) (N : Nat) (hN : 0 < N) (hmax : S.maxIter ≤ (N : Int)) :
    (lsIter S f nrm cubic D (lsStart S x0 d0 step0) N).status ≠ .notYet ∧
    ∀ m, (lsIter S f nrm cubic D (lsStart S x0 d0 step0) (N + m)).nIter ≤ N := by
  have h := lsIter_count S f nrm cubic D (lsStart S x0 d0 step0) rfl N
  have hne : (lsIter S f nrm cubic D (lsStart S x0 d0 step0) N).status ≠ .notYet := by
    intro hs
    have := (h.2 hs).2 hN
    omega
  refine ⟨hne, fun m => ?_⟩
  have hst : lsRunning (lsIter S f nrm cubic D (lsStart S x0 d0 step0) N) = false := by
    simp [lsRunning, hne]
  unfold lsIter at hst ⊢
  rw [loopN_stable _ _ N m _ hst]
  exact h.1

/-- **flags_truthful** (line-search minimizers, one pass): if the flags are truthful before the line search and the
    search direction vanishes on the flagged variables (`DirZero`: true of steepest descent on the masked gradient,
    i.e. after every restart, which every change of the active set triggers), they are truthful afterwards: the
    variable named by the nearest-bound loop lands exactly on its face when `line_search` reports the bound, and no
    flagged variable moves.  `NormDef`: the norm oracle is non-negative and vanishes only on the zero vector. -/
theorem C18_flags_truthful (S : Settings α) (f : Vec α → Sample α) (nrm : Vec α → α) (cubic : LSState α → α)
    (D : DirStrategy α δ) (st : DSt α δ) (hn : NormDef S.n nrm) (hD : DirOK D) (hz : DirZero S D st)
    (h : PInv S st) (hf : FlagsTrue S.n S.lo S.up st.x st.bs) :
    FlagsTrue S.n S.lo S.up (lsSearch S f nrm cubic D st).x (lsSearch S f nrm cubic D st).bs := by
  have hbe := (sLS_post S f nrm cubic hD h.2.2).boundExit
  -- a variable whose direction component vanishes does not move
  have hmove : FlagsTrue S.n S.lo S.up (lsSearch S f nrm cubic D st).x st.bs := hf.move fun i hi hb => by
    rw [lsSearch_x]
    by_cases hm : (sLS S f nrm cubic D st).moved = true
    · rw [if_pos hm]
      simp only [sPt, linePt, hz i hi hb, mul_zero, add_zero]
    · rw [if_neg hm]
  rw [lsSearch_bs]
  cases hidx : (sNB S nrm D st).idx with
  | none => exact hmove
  | some k =>
    refine iteInduction (fun hex => hmove.capture ?_) fun _ => hmove
    -- the captured variable: the bound step is its distance to the face, and it has been taken in full
    obtain ⟨hg, _⟩ := nearestBound_spec S.n S.big (nrm (sDir D st)) st.x (sDir D st) S.lo S.up
    obtain ⟨hk, hcase⟩ := hg.2.2 k hidx
    have hb0 : 0 ≤ (sNB S nrm D st).b := nb_b_nonneg (hn (sDir D st)).1 h.1 hidx
    have hbnd : nbBound (sNB S nrm D st) = (sNB S nrm D st).b := by simp only [nbBound, hidx, max_eq_left hb0]
    obtain ⟨_, hmv⟩ := hbe hex
    rw [hbnd] at hmv
    have hland : ∀ face : Vec α, sDir D st k ≠ 0 →
        (sNB S nrm D st).b = nrm (sDir D st) * (face k - st.x k) / sDir D st k →
        (lsSearch S f nrm cubic D st).x k = face k := by
      intro face hd hb
      have hnd : nrm (sDir D st) ≠ 0 := fun h0 => hd ((hn (sDir D st)).2 h0 k hk)
      rw [lsSearch_x]
      rcases hmv with ⟨hm, ht⟩ | ⟨hm, hb0⟩
      · rw [if_pos hm, ht, hb]
        exact step_lands hnd hd
      · rw [if_neg (Bool.eq_false_iff.mp hm)]
        rw [hb, div_eq_zero_iff, mul_eq_zero, sub_eq_zero] at hb0
        exact (hb0.resolve_right hd).resolve_left hnd ▸ rfl
    rcases hcase with ⟨hty, hd, _, hb⟩ | ⟨hty, hd, _, hb⟩
    · exact ⟨fun h1 => absurd (hty ▸ h1) (by decide), fun _ => hland S.up hd.ne' hb⟩
    · exact ⟨fun _ => hland S.lo hd.ne hb, fun h1 => absurd (hty ▸ h1) (by decide)⟩

/-- releasing never makes a flag untruthful -/
theorem C18_flags_truthful_release {n : Nat} {lo up x : Vec α} {bs : Nat → Int} (g dx : Vec α)
    (h : FlagsTrue n lo up x bs) : FlagsTrue n lo up x (releaseCG bs g) ∧ FlagsTrue n lo up x (releaseLM bs g dx) :=
  ⟨releaseCG_flags g h, releaseLM_flags g dx h⟩

/-- **converged_means** (line-search minimizers): the pass that declares convergence has found the norm of the
    gradient array over the unflagged variables at most the threshold (0 if none is free), and every variable
    still flagged has a gradient entry whose sign holds it on its bound.  When the pass began with an evaluation,
    that array is the user's gradient at the current state (`C18_converged_means_gradient`). -/
theorem C18_converged_means (S : Settings α) (nrm : Vec α → α) (D : DirStrategy α δ) (st1 : DSt α δ)
    (h1 : st1.status = .notYet) (h : (lsRelease S nrm D st1).status = .success) :
    gradNorm nrm S.n (lsRelease S nrm D st1).bs (maskGrad (lsRelease S nrm D st1).bs st1.g) ≤ S.tol ∧
    ∀ i, ((lsRelease S nrm D st1).bs i = -1 → 0 ≤ st1.g i) ∧ ((lsRelease S nrm D st1).bs i = 1 → st1.g i ≤ 0) := by
  have hs : (lsRelease S nrm D st1).status =
      if gradNorm nrm S.n (releaseCG st1.bs st1.g) (maskGrad (releaseCG st1.bs st1.g) st1.g) ≤ S.tol
        then .success else st1.status := rfl
  have hb : (lsRelease S nrm D st1).bs = releaseCG st1.bs st1.g := rfl
  rw [hs] at h
  rw [hb]
  refine ⟨?_, ?_⟩
  · by_contra hc
    rw [if_neg hc, h1] at h
    simp at h
  · intro i
    simp only [releaseCG]
    constructor
    · intro hbi
      split at hbi
      · simp at hbi
      · rename_i hc
        exact not_lt.mp (fun hlt => hc (Or.inl ⟨hbi, hlt⟩))
    · intro hbi
      split at hbi
      · simp at hbi
      · rename_i hc
        exact not_lt.mp (fun hlt => hc (Or.inr ⟨hbi, hlt⟩))

/-- a pass that starts with `state_up_to_date < 1` evaluates the user's function first: the gradient array the
    convergence test of `C18_converged_means` then reads is the user's gradient at the unchanged state -/
theorem C18_converged_means_gradient (f : Vec α → Sample α) (st : DSt α δ) (h : st.upToDate < 1) :
    (lsEval f st).g = (f st.x).grad ∧ (lsEval f st).x = st.x :=
  lsEval_cases (Q := fun s => s.g = (f st.x).grad ∧ s.x = st.x) f st (fun h' => absurd h h')
    fun _ _ hx hg _ _ _ _ => ⟨hg, hx⟩

/-- **reported_cost_is_cost_at_x** and **cost_monotone** (line search): the cost `line_search` leaves in
    `cost_function_` is the user's cost at the step it took — also on the non-finite exit (F-20) — or the entry cost
    if it took none, and it never exceeds the entry cost -/
theorem C18_ls_reported_cost (P : LSParams α) (phi : α → LSample α) (cubic : LSState α → α)
    (bound step0 cost0 grad0 curv : α) (u0 : Int) (hstep : 0 ≤ step0) (ha : 0 ≤ P.armijo) :
    (lineSearch P phi cubic bound step0 cost0 grad0 curv u0).cost ≤ cost0 ∧
    ((lineSearch P phi cubic bound step0 cost0 grad0 curv u0).moved = true →
      (lineSearch P phi cubic bound step0 cost0 grad0 curv u0).cost =
        (phi (lineSearch P phi cubic bound step0 cost0 grad0 curv u0).t).cf) ∧
    ((lineSearch P phi cubic bound step0 cost0 grad0 curv u0).moved = false →
      (lineSearch P phi cubic bound step0 cost0 grad0 curv u0).cost = cost0) :=
  let h := lineSearch_post P phi cubic bound step0 cost0 grad0 curv u0 hstep
  ⟨h.cost_le ha, h.cost_moved, h.cost_stay⟩

/-- **reported_cost_is_cost_at_x** and **cost_monotone** (one pass of a line-search minimizer): after the pass
    `cost_function_` is the user's cost at the current state, and it does not exceed the cost at the state the pass
    started from -/
theorem C18_reported_cost (S : Settings α) (f : Vec α → Sample α) (nrm : Vec α → α) (cubic : LSState α → α)
    (D : DirStrategy α δ) (st : DSt α δ) (hD : DirOK D) (h0 : 0 ≤ st.stepSize) (ha : 0 ≤ S.ls.armijo)
    (h : st.upToDate < 1 ∨ st.cost = (f st.x).cost) :
    (lsPass S f nrm cubic D st).cost = (f (lsPass S f nrm cubic D st).x).cost ∧
    (lsPass S f nrm cubic D st).cost ≤ (lsEval f st).cost := by
  obtain ⟨he, hx, hs⟩ := lsEval_cost f st h
  refine iteInduction (motive := fun s : DSt α δ => s.cost = (f s.x).cost ∧ s.cost ≤ (lsEval f st).cost)
    (fun (_ : (lsEval f st).status ≠ .notYet) => ⟨he, le_rfl⟩) fun _ => iteInduction
      (motive := fun s : DSt α δ => s.cost = (f s.x).cost ∧ s.cost ≤ (lsEval f st).cost)
      (fun (_ : (lsRelease S nrm D (lsEval f st)).status ≠ .notYet) => ⟨he, le_rfl⟩) fun _ => ?_
  have h0' : 0 ≤ (lsRelease S nrm D (lsEval f st)).stepSize := by
    show 0 ≤ (lsEval f st).stepSize
    rw [hs]; exact h0
  have hc : LSPost S.ls (sPhi S f nrm D (lsRelease S nrm D (lsEval f st))) _ (lsEval f st).cost _
      (sLS S f nrm cubic D (lsRelease S nrm D (lsEval f st))) := sLS_post S f nrm cubic hD h0'
  rw [lsSearch_cost_eq, lsSearch_x]
  refine ⟨?_, hc.cost_le ha⟩
  by_cases hm : (sLS S f nrm cubic D (lsRelease S nrm D (lsEval f st))).moved = true
  · rw [if_pos hm, hc.cost_moved hm]
    exact sPhi_cf S f nrm D _ _
  · rw [if_neg hm, hc.cost_stay (Bool.eq_false_iff.mpr hm)]
    exact he

/-- **feasible_always** and **flags_truthful** (Levenberg family), full strength: for any cost function, any damped
    Newton steps (`newtonFull`, `newtonSub` are arbitrary functions), any start, valid bounds and settings, the
    returned state and every state handed to the user satisfy `lower ≤ x ≤ upper`, and every variable flagged ∓1
    lies exactly on that face (this needs the `minloc` of F-18: the captured variable is the one that reaches its
    face first). -/
theorem C18_lm_feasible_flags (S : LMSettings α) (f : Vec α → Sample α) (cost : Vec α → α × Bool) (nrm : Vec α → α)
    (newtonFull newtonSub : Vec α → (Nat → Int) → α → Vec α) (x0 : Vec α) (damping0 : α) (fuel passes : Nat)
    (hv : boundsInvalid S.n S.lo S.up = false) :
    (∀ c ∈ (lmMinimize S f cost nrm newtonFull newtonSub x0 damping0 fuel passes).calls, Box S.n S.lo S.up c) ∧
    Box S.n S.lo S.up (lmMinimize S f cost nrm newtonFull newtonSub x0 damping0 fuel passes).x ∧
    FlagsTrue S.n S.lo S.up (lmMinimize S f cost nrm newtonFull newtonSub x0 damping0 fuel passes).x
      (lmMinimize S f cost nrm newtonFull newtonSub x0 damping0 fuel passes).bs := by
  unfold lmMinimize
  rw [hv]
  simp only [Bool.false_eq_true, ↓reduceIte]
  have hvb := boundsInvalid_false_iff.mp hv
  have h := lmEpilogue_inv f
    (loopN_inv (running := fun st => decide (st.status = .notYet))
      (fun _ ih => lmPass_inv hvb f cost nrm newtonFull newtonSub fuel _ ih) (lmStart_inv hvb x0 damping0) passes)
  exact ⟨h.2.1, h.1, h.2.2⟩

/-- in exact arithmetic the clamp of the trial state (F-63) is the identity: the captured fraction already keeps
    every free variable inside the box -/
theorem C18_lm_trial_needs_no_clamp (n : Nat) (free : Nat → Bool) (x dx lo up : Vec α) (hx : Box n lo up x) :
    Box n lo up (fun i => if free i then x i + dx i * (lmCapture n free x dx lo up).frac else x i) :=
  lmCapture_feasible n free hx

/-- **invalid_bounds** (Levenberg family): bounds with `lower ≥ upper` somewhere are answered with
    `MINIMIZER_STATUS_INVALID_BOUNDS`, without calling the user's function and without touching the state -/
theorem C18_lm_invalid_bounds (S : LMSettings α) (f : Vec α → Sample α) (cost : Vec α → α × Bool) (nrm : Vec α → α)
    (newtonFull newtonSub : Vec α → (Nat → Int) → α → Vec α) (x0 : Vec α) (damping0 : α) (fuel passes : Nat)
    (hv : boundsInvalid S.n S.lo S.up = true) :
    (lmMinimize S f cost nrm newtonFull newtonSub x0 damping0 fuel passes).status = .invalidBounds ∧
    (lmMinimize S f cost nrm newtonFull newtonSub x0 damping0 fuel passes).calls = [] ∧
    (lmMinimize S f cost nrm newtonFull newtonSub x0 damping0 fuel passes).x = x0 := by
  unfold lmMinimize
  rw [hv]
  exact ⟨rfl, rfl, rfl⟩

/-- **terminates** (Levenberg family, inner loop): whatever the cost function does, the damping escalation makes at
    most `K + 2` trial steps, where `K` is any number with `restart * mult^K ≥ dmax` (and `d * mult^K ≥ dmax` for the
    damping `d > 0` on entry): giving the loop more fuel changes nothing -/
theorem C18_lm_inner_terminates (S : LMSettings α) (cost : Vec α → α × Bool) (newtonSub : Vec α → (Nat → Int) → α → Vec α)
    (hmult : 0 < S.mult) (hrestart : 0 < S.restart) (K : Nat) (hK : S.dmax ≤ S.restart * S.mult ^ K)
    (st : LMSt α) (hd : st.damping ≤ 0 ∨ S.dmax ≤ st.damping * S.mult ^ K) (m : Nat) :
    lmInner S cost newtonSub (K + 2 + m) st = lmInner S cost newtonSub (K + 2) st := by
  by_cases h0 : st.damping ≤ 0
  · rw [show K + 2 + m = (K + 1 + m) + 1 by omega]
    refine lmInner_congr S cost newtonSub st fun h1 h2 => ?_
    -- the first try restarts the damping at `restart`
    rcases lmDD_continue h1 h2 with ⟨_, he⟩ | ⟨hp, _, _⟩
    · have he' : (lmNext S cost newtonSub st).damping = S.restart := he
      exact lmInner_fuel_pos S cost newtonSub hmult K _ (he' ▸ hrestart) (he' ▸ hK) m
    · exact absurd hp (not_lt.mpr h0)
  · have hp : 0 < st.damping := not_le.mp h0
    have hK' : S.dmax ≤ st.damping * S.mult ^ K := hd.resolve_left h0
    have h1 := lmInner_fuel_pos S cost newtonSub hmult K st hp hK' (1 + m)
    have h2 := lmInner_fuel_pos S cost newtonSub hmult K st hp hK' 1
    rw [show K + 2 + m = K + 1 + (1 + m) by omega, h1, show K + 2 = K + 1 + 1 by omega, h2]

/-- **iterations_bounded** / **terminates** (Levenberg family, outer loop): the iteration counter never exceeds the
    number of passes; while the loop runs it equals it and stays below `max_iterations` -/
theorem C18_lm_iterations_bounded (S : LMSettings α) (f : Vec α → Sample α) (cost : Vec α → α × Bool) (nrm : Vec α → α)
    (newtonFull newtonSub : Vec α → (Nat → Int) → α → Vec α) (x0 : Vec α) (damping0 : α) (fuel k : Nat) :
    (lmIter S f cost nrm newtonFull newtonSub fuel (lmStart S x0 damping0) k).nIter ≤ k ∧
    ((lmIter S f cost nrm newtonFull newtonSub fuel (lmStart S x0 damping0) k).status = .notYet →
      0 < k → (k : Int) < S.maxIter) :=
  let h := loop_count _ (fun st : LMSt α => st.status) (fun st => st.nIter) S.maxIter
    (lmPass_count S f cost nrm newtonFull newtonSub fuel) (lmStart S x0 damping0) rfl k
  ⟨h.1, fun hs hk => (h.2 hs).2 hk⟩

/-- **converged_means** for the Levenberg family holds only in a weakened form (finding F-65).  The full statement
    "every variable still flagged is held by the sign of its gradient" is FALSE for the code as written
    (`AdeptProofs/Refute/Minimizer.lean`): a flagged variable is released only if, in addition, the damped Newton
    step of the FULL system points into the box.  What does hold: the gradient norm over the unflagged variables is
    at most the threshold, and each flagged variable has an outward gradient OR a Newton step that does not point
    inward. -/
theorem C18_converged_means_lm_partial (S : LMSettings α) (f : Vec α → Sample α) (cost : Vec α → α × Bool) (nrm : Vec α → α)
    (newtonFull newtonSub : Vec α → (Nat → Int) → α → Vec α) (fuel : Nat) (st : LMSt α)
    (hok : (f st.x).costOk = true ∧ (f st.x).gradOk = true) (hnb : st.nbound > 0)
    (hgn : gradNorm nrm S.n (releaseLM st.bs (f st.x).grad (newtonFull st.x st.bs st.damping)) (f st.x).grad ≤ S.tol) :
    (lmPass S f cost nrm newtonFull newtonSub fuel st).status = .success ∧
    ∀ i, ((lmPass S f cost nrm newtonFull newtonSub fuel st).bs i = -1 →
            0 ≤ (f st.x).grad i ∨ newtonFull st.x st.bs st.damping i ≤ 0) ∧
         ((lmPass S f cost nrm newtonFull newtonSub fuel st).bs i = 1 →
            (f st.x).grad i ≤ 0 ∨ 0 ≤ newtonFull st.x st.bs st.damping i) := by
  have h := lmPass_converged f cost nrm newtonFull newtonSub fuel hok (by rw [if_pos hnb]; exact hgn)
  refine ⟨h.1, fun i => ?_⟩
  rw [h.2.2, if_pos hnb]
  exact releaseLM_held _ _ _ i

end Adept.Minimizer
