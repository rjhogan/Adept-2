import AdeptProofs.Lemmas.Assign
import AdeptModel.Generated.AliasNodes
/-!
# C04 — array statements have element-wise value semantics despite aliasing / layout

The property theorems; the statement theorems are instances of `storeLoop_frozen` and `storeLoop_aliasTested`
(`AdeptProofs/Lemmas/Assign.lean`).  All statements are about
`AdeptModel/Assign.lean` and `AdeptModel/Reduce.lean`, the transcription of the passive statement paths of
`Array.h`, `FixedArray.h`, `IndexedArray.h`, `where.h`, `noalias.h`, `spread.h`, `outer_product.h`, `reduce.h`
of the tree WITH the fixes F-02 (innermost loops count elements, a27a596), F-03 (`*this = noalias(*this) op rhs`), F-11 and
F-28 (alias test of `spread` / `outer_product` operands).  checks/c04.py ties the model to the C++ on every run.

Every theorem quantifies over all ranks, extents, strides of either sign, base addresses (hence all overlaps)
and all memories.  `lhs.WF` = non-empty array, one offset per dimension.  "Evaluate the whole right-hand
side first, in index order, then store" is `storeAll lhs (evalAll rhs lhs.dims m) m`.

Where the code does NOT have the property the full statement is kept as a `def …Full : Prop`, the theorem
proved is `…_partial` with the excluding hypothesis spelled out, and `AdeptProofs/Refute/Assign.lean` refutes
the full statement on a concrete witness:
  * `where`: the mask is evaluated lazily (F-25);  `either_or`: two passes (F-38);
  * `FixedArray` targets are not alias-tested (F-22, documented);
  * `IndexedArray op=` with a repeated index accumulates (F-39).
  * nested initializer list with fewer rows than the matrix: the other rows are not zeroed (`InitListRowsZeroFull`, refuted below).

Compound conditional assignment `A.where(B) OP= C` is stated for the macro body of where.h with the operand spelled `array_`
(`A.assign_conditional(B, noalias(A) OP C)`); the pinned tree writes `noalias(*this)`, which does not compile (checks/c04.py probes
this on every run and reports the finding).
-/
namespace Adept.Assign

/-! ## addresses, `data_range`, the alias test -/

/-- every element address of a view lies in the range `Array::data_range` computes, whatever the signs of the
    strides -/
theorem C04_dataRange_sound (v : View) (ix : List Nat) (h : ix ∈ idxs v.dims) :
    v.dataRange.1 ≤ v.addr ix ∧ v.addr ix ≤ v.dataRange.2 := dataRange_sound v ix h

/-- if `is_aliased` is false for the expression, the cell set of the left-hand side is disjoint from the cell
    set of every array operand that is not wrapped in `noalias` (for an `IndexedArray` operand: of the whole
    array it wraps) -/
theorem C04_alias_conservative (lhs : View) (e : Expr)
    (h : e.isAliased lhs.dataRange.1 lhs.dataRange.2 = false) :
    ∀ v ∈ e.checkedLeaves, ∀ a ∈ lhs.cells, a ∉ v.cells := alias_conservative lhs e h

/-! ## the loops as coded are folds over the index tuples in index order -/

/-- `assign_expression_` (running `index`, `advance_index` carries) = in-order fold, any rank, any stride signs -/
theorem C04_assign_loop_is_fold (lhs : View) (rhs : Expr) (m : Mem) (h : lhs.WF) :
    assignExpression lhs rhs m = seqAssign lhs rhs m := assignExpression_eq_seq lhs rhs m h

/-- `assign_conditional_` including the `is_gap` resynchronisation of the right-hand cursor -/
theorem C04_where_loop_is_fold (lhs : View) (mask : BExpr) (rhs : Expr) (m : Mem) (h : lhs.WF) :
    assignConditional_ lhs mask rhs m = seqWhere lhs mask rhs m := assignConditional__eq_seq lhs mask rhs m h

/-- the in-order loop equals "evaluate all, then store" whenever no cell written at an earlier position is read
    at a later one (in particular when the two sides are disjoint) -/
theorem C04_seq_eq_par (lhs : View) (rhs : Expr) (m : Mem)
    (hs : SafeFor lhs.addr (idxs lhs.dims) rhs.reads) :
    seqAssign lhs rhs m = storeAll lhs (evalAll rhs lhs.dims m) m := seq_eq_par lhs rhs m hs

/-- the aliased path (temporary copy) gives "evaluate all, then store" unconditionally -/
theorem C04_copy_path (lhs : View) (rhs : Expr) (m : Mem) :
    seqAssign lhs (rhs.snapshot m) m = storeAll lhs (evalAll rhs lhs.dims m) m := copy_path lhs rhs m

/-- `Array::operator=(Expression)`: for every layout and overlap the result is "evaluate the whole right-hand
    side, then store"; the only duty left to the caller concerns the terms he wrapped in `noalias` himself -/
theorem C04_assign_semantics (lhs : View) (rhs : Expr) (m : Mem) (hw : lhs.WF) (hc : rhs.Conforms lhs.dims)
    (hna : ∀ t ∈ rhs.noaliasTerms, SafeFor lhs.addr (idxs lhs.dims) t.reads) :
    assign lhs rhs m = storeAll lhs (evalAll rhs lhs.dims m) m := assign_semantics lhs rhs m hw hc hna

/-- without any `noalias` in the statement there is no side condition at all -/
theorem C04_assign_semantics_no_noalias (lhs : View) (rhs : Expr) (m : Mem) (hw : lhs.WF)
    (hc : rhs.Conforms lhs.dims) (h0 : rhs.noaliasTerms = []) :
    assign lhs rhs m = storeAll lhs (evalAll rhs lhs.dims m) m :=
  assign_semantics lhs rhs m hw hc (by rw [h0]; intro t ht; cases ht)

/-- a `noalias` term that does not overlap the left-hand side is safe -/
theorem C04_noalias_disjoint_safe (lhs : View) (t : Expr)
    (h : ∀ ix' ∈ idxs lhs.dims, ∀ ix ∈ idxs lhs.dims, lhs.addr ix' ∉ t.reads ix) :
    SafeFor lhs.addr (idxs lhs.dims) t.reads := safeFor_of_disjoint _ _ _ h

/-- a `noalias` term that is the left-hand view itself ("accessed in the same order") is safe when the view is
    injective -/
theorem C04_noalias_self_safe (lhs : View) (h : lhs.Injective) :
    SafeFor lhs.addr (idxs lhs.dims) (Expr.leaf lhs).reads := safeFor_self lhs.addr _ h

/-- what is stored: the final content of a cell is the value of the LAST position addressing it -/
theorem C04_store_last_write_wins (lhs : View) (xs : List Int) (m : Mem) (a : Int) :
    storeAll lhs xs m a = (lastWrite (lhs.cells.zip xs) a).getD (m a) := storePairs_lastWrite _ m a

/-- `a op= rhs` (coded `a = noalias(a) op rhs`): every element becomes `old op rhs` with the whole right-hand
    side, `rhs` included, read before anything is stored — for every overlap of `rhs` with `a` -/
theorem C04_compound_semantics (op : BOp) (lhs : View) (rhs : Expr) (m : Mem) (hw : lhs.WF)
    (hinj : lhs.Injective) (hc : rhs.Conforms lhs.dims)
    (hna : ∀ t ∈ rhs.noaliasTerms, SafeFor lhs.addr (idxs lhs.dims) t.reads) :
    compound op lhs rhs m
      = storeAll lhs ((idxs lhs.dims).map fun ix => op.ap (m (lhs.addr ix)) (rhs.evalAt m ix)) m := by
  rw [compound, ← evalAll_compound]
  exact assign_semantics lhs _ m hw ⟨fun _ h => h, hc⟩
    (naSafe_compound _ _ op (.leaf lhs) rhs (safeFor_self lhs.addr _ hinj) hna)

/-- `a = x`: every element is stored, for strides of either sign and for zero strides (the innermost loop
    counts the elements) -/
theorem C04_scalar_broadcast (lhs : View) (x : Int) (m : Mem) (hw : lhs.WF) :
    assignScalar lhs x m = storeAll lhs ((idxs lhs.dims).map fun _ => x) m :=
  (assignScalar_eq_assign lhs x m).trans (assign_semantics lhs (.const x) m hw trivial nofun)

/-- the scalar loop as coded (running `index`, element counter) is the in-order fold -/
theorem C04_scalar_loop_is_fold (lhs : View) (x : Int) (m : Mem) (h : lhs.WF) :
    lhs.traverse (fun dl sl _ index m => innerScalar x lhs.base sl dl index m) m = seqScalar lhs x m :=
  (traverse_innerScalar lhs x m).trans (assignExpression_eq_seq lhs (.const x) m h)

/-- FULL statement (refuted, F-25): mask and right-hand side are evaluated before anything is stored -/
def WhereSemanticsFull : Prop :=
  ∀ (lhs : View) (mask : BExpr) (rhs : Expr) (m : Mem), lhs.WF → lhs.Injective → rhs.Conforms lhs.dims →
    rhs.noaliasTerms = [] →
    assignConditional lhs mask rhs m = storeWhere lhs (maskAll mask lhs.dims m) (evalAll rhs lhs.dims m) m

/-- what holds: the same, for masks none of whose operands reads, at a later position, a cell the statement
    wrote at an earlier one (e.g. masks over other arrays, or over the target itself at identical positions) -/
theorem C04_where_semantics_partial (lhs : View) (mask : BExpr) (r : WRhs) (m : Mem) (hw : lhs.WF)
    (hc : r.Conforms lhs.dims) (hm : SafeFor lhs.addr (idxs lhs.dims) mask.reads) (hna : r.NaSafe lhs) :
    whereAssign lhs mask r m = storeWhere lhs (maskAll mask lhs.dims m) (r.evalAll lhs.dims m) m := by
  rw [whereAssign_eq lhs mask r m hw, r.evalAll_eq]
  exact assignConditional_semantics lhs mask r.toExpr m hw (toExpr_conforms r _ hc) hm (toExpr_naSafe r lhs hna)

/-- FULL statement for `either_or` (refuted, F-38) -/
def EitherOrSemanticsFull : Prop :=
  ∀ (lhs : View) (mask : BExpr) (c d : WRhs) (m : Mem), lhs.WF → lhs.Injective →
    c.Conforms lhs.dims → d.Conforms lhs.dims → c.NaSafe lhs → d.NaSafe lhs →
    whereEitherOr lhs mask c d m
      = storeWhere lhs (maskAll mask lhs.dims m) (c.evalAll lhs.dims m)
          (storeWhere lhs (maskAll (.not mask) lhs.dims m) (d.evalAll lhs.dims m) m)

/-- what holds: mask and true-branch must not read the target at all (the false-branch may) -/
theorem C04_either_or_semantics_partial (lhs : View) (mask : BExpr) (c d : WRhs) (m : Mem) (hw : lhs.WF)
    (hcc : c.Conforms lhs.dims) (hcd : d.Conforms lhs.dims)
    (hmask : ∀ ix ∈ idxs lhs.dims, ∀ a ∈ mask.reads ix, a ∉ lhs.cells)
    (hcav : c.Avoids lhs) (hnac : c.NaSafe lhs) (hnad : d.NaSafe lhs) :
    whereEitherOr lhs mask c d m
      = storeWhere lhs (maskAll mask lhs.dims m) (c.evalAll lhs.dims m)
          (storeWhere lhs (maskAll (.not mask) lhs.dims m) (d.evalAll lhs.dims m) m) := by
  have hm : SafeFor lhs.addr (idxs lhs.dims) mask.reads :=
    safeFor_of_disjoint _ _ _ fun ix' h' ix h e => hmask ix h _ e (mem_cells h')
  unfold whereEitherOr
  rw [C04_where_semantics_partial lhs (.not mask) d m hw hcd hm hnad,
    C04_where_semantics_partial lhs mask c _ hw hcc hm hnac]
  -- the first pass stored into cells of the target only, and neither the mask nor `c` reads those
  have hoff : ∀ a, a ∉ lhs.cells →
      storeWhere lhs (maskAll (.not mask) lhs.dims m) (d.evalAll lhs.dims m) m a = m a :=
    fun a ha => storeWhere_unselected lhs _ _ m a fun p hp e => absurd (e ▸ (List.of_mem_zip hp).1) ha
  rw [maskAll_congr mask lhs.dims _ m (fun ix hix a ha => hoff a (hmask ix hix a ha))]
  congr 1
  cases c with
  | scalar x => rfl
  | expr e => exact evalAll_congr e lhs.dims _ m (fun ix hix a ha => hoff a (hcav ix hix a ha))

/-! ## compound conditional assignment `A.where(B) OP= C`, and `FixedArray.where` -/

/-- `A.where(B) OP= C` (`+= -= *= /=`; coded `A.assign_conditional(B, noalias(A) OP C)`, where.h): every SELECTED element becomes
    `old(A) OP C` with the mask and the whole of `C` — whatever its overlap with `A`: it is alias-tested — evaluated BEFORE
    anything is stored, every unselected element keeps its value (next theorem).  The hypothesis on the mask is that of
    `C04_where_semantics_partial` (a mask reading the target at other positions is open finding F-25, same signature). -/
theorem C04_where_compound_semantics_partial (op : BOp) (lhs : View) (mask : BExpr) (r : WRhs) (m : Mem) (hw : lhs.WF)
    (hinj : lhs.Injective) (hc : r.Conforms lhs.dims) (hm : SafeFor lhs.addr (idxs lhs.dims) mask.reads)
    (hna : r.NaSafe lhs) :
    whereCompound op lhs mask r m
      = storeWhere lhs (maskAll mask lhs.dims m)
          ((idxs lhs.dims).map fun ix => op.ap (m (lhs.addr ix)) (r.toExpr.evalAt m ix)) m := by
  rw [whereCompound, ← evalAll_compound]
  exact assignConditional_semantics lhs mask _ m hw ⟨fun _ h => h, toExpr_conforms r _ hc⟩ hm
    (naSafe_compound _ _ op (.leaf lhs) _ (safeFor_self lhs.addr _ hinj) (toExpr_naSafe r lhs hna))

/-- a conditional store touches no cell all of whose positions in the target are unselected (in particular no cell outside
    the target): "unselected elements untouched", for plain and compound `where` alike -/
theorem C04_where_unselected_untouched (lhs : View) (bs : List Bool) (xs : List Int) (m : Mem) (a : Int)
    (h : ∀ p ∈ lhs.cells.zip bs, p.1 = a → p.2 = false) : storeWhere lhs bs xs m a = m a :=
  storeWhere_unselected lhs bs xs m a h

/-- `F.where(B) = C` on a `FixedArray` target (`FixedArray::assign_conditional`: the same loop, NO alias test — F-22): holds when
    mask and right-hand side are safe to read while the target is being stored -/
theorem C04_fixed_where_semantics_partial (lhs : View) (mask : BExpr) (r : WRhs) (m : Mem) (hw : lhs.WF)
    (hm : SafeFor lhs.addr (idxs lhs.dims) mask.reads) (hr : SafeFor lhs.addr (idxs lhs.dims) r.toExpr.reads) :
    fixedWhereAssign lhs mask r m = storeWhere lhs (maskAll mask lhs.dims m) (r.evalAll lhs.dims m) m := by
  rw [r.evalAll_eq]
  exact (assignConditional__eq_seq lhs mask r.toExpr m hw).trans (seqWhere_frozen lhs mask r.toExpr m hm hr)

/-- `F.where(B) OP= C` on a `FixedArray` target -/
theorem C04_fixed_where_compound_semantics_partial (op : BOp) (lhs : View) (mask : BExpr) (r : WRhs) (m : Mem)
    (hw : lhs.WF) (hinj : lhs.Injective) (hm : SafeFor lhs.addr (idxs lhs.dims) mask.reads)
    (hr : SafeFor lhs.addr (idxs lhs.dims) r.toExpr.reads) :
    fixedWhereCompound op lhs mask r m
      = storeWhere lhs (maskAll mask lhs.dims m)
          ((idxs lhs.dims).map fun ix => op.ap (m (lhs.addr ix)) (r.toExpr.evalAt m ix)) m := by
  rw [fixedWhereCompound, ← evalAll_compound]
  exact C04_fixed_where_semantics_partial lhs mask (.expr (.bin op (.noalias (.leaf lhs)) r.toExpr)) m hw hm
    (safeFor_append _ _ _ _ (safeFor_self lhs.addr _ hinj) hr)

/-- non-vacuity: `a.where(a > 2) += a(reversed)` on `0 1 36 48 60` (mask over the target at identical positions, right-hand side
    the reversed target: aliased, temporary) gives `0 1 72 49 60` — the hypotheses hold and unselected cells stay -/
example : let a : View := ⟨0, [5], [1]⟩; let b : View := ⟨4, [5], [-1]⟩
    let mask : BExpr := .cmp .gt (.leaf a) (.const 2)
    a.WF ∧ a.Injective ∧ (WRhs.expr (.leaf b)).Conforms a.dims ∧ SafeFor a.addr (idxs a.dims) mask.reads ∧
    (List.range 5).map (whereCompound .add a mask (.expr (.leaf b))
        ⟨fun k => [0, 1, 36, 48, 60].getD k.toNat 0⟩ ∘ Int.ofNat) = [0, 1, 72, 49, 60] := by
  refine ⟨⟨rfl, by decide, by decide⟩, (by show (View.cells _).Nodup; decide), ?_, ?_, by decide⟩
  · show ∀ ix ∈ idxs [5], ix ∈ idxs [5]; exact fun ix h => h
  · show List.Pairwise _ _; decide

/-! ## initializer lists as statements -/

/-- `v = {x0, x1, ..}` on a non-empty vector view of any stride (Array.h / FixedArray.h): EVERY element of the vector is set to
    zero first, then element `j` of the list is stored at coordinate `[j]` (`C04_initlist_vector_addr`), in list order: listed
    elements get the list's values, the underfilled remainder is zero -/
theorem C04_initlist_vector_semantics (lhs : View) (xs : List Int) (m : Mem) (hw : lhs.WF) :
    ilAssign1 lhs xs m
      = storePairs (((List.range xs.length).map fun (j : Nat) => lhs.base + (j : Int) * lhs.strides.headD 0).zip xs)
          (storeAll lhs ((idxs lhs.dims).map fun _ => 0) m) := by
  unfold ilAssign1
  rw [C04_scalar_broadcast lhs 0 m hw, fold_zipIdx_write, List.range_eq_range']

/-- `data_[j*offset_[0]]` is the address of coordinate `[j]` -/
theorem C04_initlist_vector_addr (lhs : View) (s : Int) (j : Nat) (h : lhs.strides = [s]) :
    lhs.addr [j] = lhs.base + (j : Int) * lhs.strides.headD 0 := by
  simp [View.addr, dot, h]

/-- `M = {{..},{..}}`: row `i` of the list is assigned, as a vector, to the row view `M[i]`, whose coordinate `ix` is the
    matrix's coordinate `i :: ix`; `FixedArray` zeroes the whole matrix first -/
theorem C04_initlist_matrix_rows (lhs : View) (rows : List (List Int)) (m : Mem) :
    ilAssign2 lhs rows m = rows.zipIdx.foldl (fun m p => ilAssign1 (lhs.sub p.2) p.1 m) m ∧
    fixedIlAssign2 lhs rows m = ilAssign2 lhs rows (assignScalar lhs 0 m) ∧
    ∀ (i : Nat) (ix : List Nat) (s : Int) (ss : List Int), lhs.strides = s :: ss → (lhs.sub i).addr ix = lhs.addr (i :: ix) :=
  ⟨rfl, rfl, fun i ix s ss h => by simp only [View.sub, View.addr, dot, h, List.headD_cons, List.tail_cons, Int.add_assoc]⟩

/-- FULL statement for nested lists (refuted, finding initlist-fewer-rows-not-zeroed): every element of the target the list
    does not name becomes zero.  `Array` of rank 2 assigns the rows of the list only. -/
def InitListRowsZeroFull : Prop :=
  ∀ (lhs : View) (rows : List (List Int)) (m : Mem), lhs.WF → lhs.dims.length = 2 → rows.length ≤ lhs.dims.headD 0 →
    ∀ i j, i < lhs.dims.headD 0 → j < lhs.dims.getD 1 0 → rows.length ≤ i → ilAssign2 lhs rows m (lhs.addr [i, j]) = 0

/-- refutation: `Matrix M(2,1); M = 9; M = {{1}}` leaves `M(1,0) = 9` -/
theorem C04_initlist_rows_zero_full_refuted : ¬ InitListRowsZeroFull := by
  intro h
  have := h ⟨0, [2, 1], [1, 1]⟩ [[1]] ⟨fun _ => 9⟩ ⟨rfl, by decide, by decide⟩ rfl (by decide) 1 0 (by decide) (by decide)
    (by decide)
  revert this
  decide

/-- the `FixedArray` form does zero them (same witness) -/
example : fixedIlAssign2 ⟨0, [2, 1], [1, 1]⟩ [[1]] ⟨fun _ => 9⟩ 1 = 0 ∧
    fixedIlAssign2 ⟨0, [2, 1], [1, 1]⟩ [[1]] ⟨fun _ => 9⟩ 0 = 1 := by decide

/-- short vector into a reversed view: `v(stride(3,0,-1)) = {5, 6}` on `9 9 9 9` gives `0 0 6 5` -/
example : (List.range 4).map (ilAssign1 ⟨3, [4], [-1]⟩ [5, 6] ⟨fun _ => 9⟩ ∘ Int.ofNat) = [0, 0, 6, 5] := by decide

/-- FULL statement (refuted, F-22: no alias test for `FixedArray` targets, documented) -/
def FixedSemanticsFull : Prop :=
  ∀ (lhs : View) (rhs : Expr) (m : Mem), lhs.WF → lhs.Injective → rhs.Conforms lhs.dims → rhs.noaliasTerms = [] →
    fixedAssign lhs rhs m = storeAll lhs (evalAll rhs lhs.dims m) m

theorem C04_fixed_semantics_partial (lhs : View) (rhs : Expr) (m : Mem) (hw : lhs.WF)
    (hs : SafeFor lhs.addr (idxs lhs.dims) rhs.reads) :
    fixedAssign lhs rhs m = storeAll lhs (evalAll rhs lhs.dims m) m :=
  (assignExpression_eq_seq lhs rhs m hw).trans (seq_eq_par lhs rhs m hs)

/-- `A(idx…) = rhs`: evaluate all, then store in index order — with repeated indices the last write wins
    (next theorem); no injectivity is assumed -/
theorem C04_indexed_semantics (lhs : IView) (rhs : Expr) (m : Mem) (hw : lhs.WF) (hc : rhs.Conforms lhs.dims)
    (hna : ∀ t ∈ rhs.noaliasTerms, SafeFor lhs.addr (idxs lhs.dims) t.reads) :
    indexedAssign lhs rhs m = storeAllI lhs (evalAll rhs lhs.dims m) m := by
  unfold indexedAssign
  simp only [hw.nonempty, Bool.false_eq_true, if_false, indexedAssignExpression_eq_storeLoop]
  rw [storeLoop_aliasTested lhs.a lhs.addr lhs.dims (fun ix h => mem_cells (hw.inb ix h)) .top rhs m hc
    (safeFor_nil _ _) hna, BExpr.lit_evalAt_top]
  exact storeLoop_copy_eq_storePairs lhs.addr rhs _ m m

theorem C04_indexed_last_write_wins (lhs : IView) (xs : List Int) (m : Mem) (a : Int) :
    storeAllI lhs xs m a = (lastWrite (lhs.cells.zip xs) a).getD (m a) := storePairs_lastWrite _ m a

theorem C04_indexed_scalar (lhs : IView) (x : Int) (m : Mem) (hw : lhs.WF) :
    indexedAssignScalar lhs x m = storeAllI lhs ((idxs lhs.dims).map fun _ => x) m :=
  C04_indexed_semantics lhs (.const x) m hw trivial nofun

/-- FULL statement for `A(idx…) op= rhs` (refuted, F-39: a repeated index accumulates) -/
def IndexedCompoundSemanticsFull : Prop :=
  ∀ (op : BOp) (lhs : IView) (rhs : Expr) (m : Mem), lhs.WF → rhs.Conforms lhs.dims → rhs.noaliasTerms = [] →
    indexedCompound op lhs rhs m
      = storeAllI lhs ((idxs lhs.dims).map fun ix => op.ap (m (lhs.addr ix)) (rhs.evalAt m ix)) m

theorem C04_indexed_compound_semantics_partial (op : BOp) (lhs : IView) (rhs : Expr) (m : Mem) (hw : lhs.WF)
    (hinj : lhs.cells.Nodup) (hc : rhs.Conforms lhs.dims)
    (hna : ∀ t ∈ rhs.noaliasTerms, SafeFor lhs.addr (idxs lhs.dims) t.reads) :
    indexedCompound op lhs rhs m
      = storeAllI lhs ((idxs lhs.dims).map fun ix => op.ap (m (lhs.addr ix)) (rhs.evalAt m ix)) m := by
  rw [indexedCompound, ← evalAll_compound_indexed]
  exact C04_indexed_semantics lhs _ m hw ⟨hw.inb, hc⟩
    (naSafe_compound _ _ op (.ileaf lhs) rhs (safeFor_self lhs.addr _ hinj) hna)

/-! ## reductions and friends: the definitions, over the element list in index order -/

theorem C04_reduce_whole_def (f : RFn) (e : Expr) (dims : List Nat) (m : Mem) :
    reduceAll f e dims m = if dims.head? == some 0 then .val 0 else f.fold ((idxs dims).map (e.evalAt m)) := rfl

theorem C04_reduce_dim_def (f : RFn) (e : Expr) (dims : List Nat) (d : Nat) (m : Mem) :
    reduceDim f e dims d m = if dims.head? == some 0 then [] else
      (idxs (dropAt d dims)).map fun ixr =>
        f.fold ((List.range (dims.getD d 0)).map fun k => e.evalAt m (insertAt d k ixr)) := rfl

theorem C04_sum_def (xs : List Int) : RFn.fold .sum xs = .val (xs.foldl (· + ·) 0) := rfl
theorem C04_mean_def (xs : List Int) : RFn.fold .mean xs = .quot (xs.foldl (· + ·) 0) xs.length := rfl
theorem C04_product_def (xs : List Int) : RFn.fold .product xs = .val (xs.foldl (· * ·) 1) := rfl
theorem C04_minval_def (x : Int) (xs : List Int) : RFn.fold .minval (x :: xs) = .val (xs.foldl imin x) := rfl
theorem C04_maxval_def (x : Int) (xs : List Int) : RFn.fold .maxval (x :: xs) = .val (xs.foldl imax x) := rfl
theorem C04_norm2_def (xs : List Int) : RFn.fold .norm2 xs = .sqrt (xs.foldl (fun t x => t + x * x) 0) := rfl
theorem C04_all_def (bs : List Bool) : BFn.fold .all bs = if bs.foldl (· && ·) true then 1 else 0 := rfl
theorem C04_any_def (bs : List Bool) : BFn.fold .any bs = if bs.foldl (· || ·) false then 1 else 0 := rfl
theorem C04_count_def (bs : List Bool) :
    BFn.fold .count bs = bs.foldl (fun t b => t + (if b then 1 else 0)) 0 := rfl
theorem C04_dot_product_def (l r : Expr) (n : Nat) (m : Mem) :
    dotProduct l r n m = reduceAll .sum (.bin .mul l r) [n] m := rfl
theorem C04_spread_def (d : Nat) (v : View) (m : Mem) (ix : List Nat) :
    (Expr.spread d v).evalAt m ix = m (v.addr (dropAt d ix)) := rfl
theorem C04_outer_product_def (l r : View) (m : Mem) (i j : Nat) :
    (Expr.outer l r).evalAt m [i, j] = m (l.addr [i]) * m (r.addr [j]) := rfl

/-- `find`: exactly the positions of the true elements, in increasing order -/
theorem C04_find_def (bs : List Bool) (i : Nat) :
    findL bs i = (bs.zipIdx i).filterMap fun p => if p.1 then some p.2 else none := by
  induction bs generalizing i with
  | nil => rfl
  | cons b bs ih => cases b <;> simp [findL, List.zipIdx_cons, ih]

/-! ## non-vacuity: the hypotheses are met by overlapping operands, and the conclusions are not trivial -/

/-- shift-right inside one allocation, `a(range(1,4)) = a(range(0,3))`: aliased, temporary, correct -/
example : let a : View := ⟨1, [4], [1]⟩; let b : View := ⟨0, [4], [1]⟩
    a.WF ∧ (Expr.leaf b).Conforms a.dims ∧ (Expr.leaf b).isAliased a.dataRange.1 a.dataRange.2 = true ∧
    (List.range 5).map (assign a (.leaf b) ⟨fun k => k + 1⟩ ∘ Int.ofNat) = [1, 1, 2, 3, 4] := by
  refine ⟨⟨rfl, by decide, by decide⟩, fun ix h => h, by decide, by decide⟩

/-- `a(range(1,4)) += a(range(0,3))` on `1..5` gives `1 3 5 7 9` (the F-03 witness), and the
    hypotheses of `C04_compound_semantics` hold for it -/
example : let a : View := ⟨1, [4], [1]⟩; let b : View := ⟨0, [4], [1]⟩
    a.WF ∧ a.Injective ∧ (Expr.leaf b).Conforms a.dims ∧
    (List.range 5).map (compound .add a (.leaf b) ⟨fun k => k + 1⟩ ∘ Int.ofNat) = [1, 3, 5, 7, 9] := by
  refine ⟨⟨rfl, by decide, by decide⟩, (by show (View.cells _).Nodup; decide), fun ix h => h, by decide⟩

/-- scalar into a reversed view (the F-02 witness): all five cells are written -/
example : (List.range 5).map (assignScalar ⟨4, [5], [-1]⟩ 7 ⟨fun _ => 1⟩ ∘ Int.ofNat) = [7, 7, 7, 7, 7] := by
  decide

/-- CENSUS of the alias test.  `rhs.is_aliased(mem1, mem2)` is answered node by node through `is_aliased_`; the model's
    `isAliased` is one recursion over the expression tree.  The table `AliasCensus.aliasNodes` is REGENERATED from
    include/adept/*.h by translate/alias.py on every run: for every class that defines `is_aliased_` it lists the operands the
    class holds (those its `expression_string_` prints), the operands its alias test consults, and a classification.  No class
    is broken: every inner node consults exactly its operands, each with the range `(mem1, mem2)` handed down unchanged and in
    order; the array-like leaves compare their own data range with it; scalar leaves own no array memory; the only nodes that
    answer `false` while holding an array operand are `noalias` (the user's promise) and the bool-valued comparison nodes (the
    type boundary of open findings F-25 / F-38); IndexedArray consults the array it indexes (its index vectors are the stated
    assumption of this property's check). -/
theorem C04_every_node_alias_test_forwards :
    AliasCensus.aliasNodes.all (fun n => decide (n.2.2.2.2 ≠ AliasCensus.AliasKind.broken)) = true ∧
    AliasCensus.aliasNodes.all (fun n =>
      decide (n.2.2.2.2 = AliasCensus.AliasKind.forwardsAll → n.2.2.1 = n.2.2.2.1 ∨ n.2.2.1.reverse = n.2.2.2.1)) = true := by
  decide

end Adept.Assign
