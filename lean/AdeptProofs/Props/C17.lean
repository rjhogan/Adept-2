import AdeptProofs.Lemmas.Special
import AdeptProofs.Lemmas.SpecialTape
/-!
# C17 — special matrices behave as the dense matrices they stand for

The property theorems; the specification vocabulary and the lemmas they rest on live in
`AdeptProofs/Lemmas/Special.lean` and `AdeptProofs/Lemmas/SpecialTape.lean`.

All statements are about
* `AdeptModel/Generated/Engines.lean` — the engine policy structs of `include/adept/SpecialMatrix.h`, regenerated
  from the header by `translate/engines.py` on every run of the check (so a changed formula breaks a proof), and
* `AdeptModel/Special.lean` — the hand-written transcription of the `SpecialMatrix` member functions that call them,
  tied to the C++ by the exhaustive correspondence run of `checks/c17.py`.

They hold for **every** engine the header defines (both storage orders / orientations, every band width
`LDiags, UDiags ≥ 0`), every dimension `≥ 1`, every offset `≥ pack_offset(dim)` (packed matrices, sub-matrices and
`diag_matrix()` views alike) and every `(i,j)`.  C++ `Index` arithmetic is modelled without overflow.

These files match the tree **with fixes/F-27.patch applied** (`BandEngine<COL_MAJOR,0,0>` specialised).  On the
unpatched tree `C17_rhs_traversal` is false for that engine at offset 0 and this file does not build — which is the
gate reporting finding F-27.
-/
namespace Adept.Special
open Adept.Engines

/-- the engine structs of the header, as the translator lists them; a new or renamed struct changes the generated
    list and fails here -/
theorem C17_engines_covered :
    Engine.structs = ["SquareEngine<Order>", "SquareEngine<COL_MAJOR>", "BandEngineHelper<LDiags,UDiags>",
      "BandEngineHelper<0,0>", "BandEngineHelper<1,1>", "BandEngineHelper<2,2>", "BandEngine<Order,LDiags,UDiags>",
      "BandEngine<COL_MAJOR,LDiags,UDiags>", "BandEngine<COL_MAJOR,0,0>", "SymmEngine<Orient>",
      "SymmEngine<ROW_UPPER_COL_LOWER>", "LowerBase<Order>", "LowerEngine<Order>", "LowerEngine<COL_MAJOR>",
      "UpperBase<Order>", "UpperEngine<Order>", "UpperEngine<COL_MAJOR>"] := rfl

/-- zero_outside: `get_scalar` reads raw element `index(i,j,offset)` exactly inside the triangle / band
    (everywhere for square and symmetric engines) and a structural zero exactly outside — also when the band is
    wider than the matrix -/
theorem C17_zero_outside (e : Engine) (i j dim offset : Int) :
    (InPattern e i j → e.get_scalar i j dim offset = some (e.index i j offset)) ∧
    (¬ InPattern e i j → e.get_scalar i j dim offset = none) := by
  rw [get_scalar_eq]
  exact ⟨fun h => if_pos h, fun h => if_neg h⟩

/-- rvalue and lvalue access, passive and active, test the same condition and address the same raw element
    (lvalue access throws exactly where the rvalue is a structural zero) -/
theorem C17_access_overloads_agree (e : Engine) (i j dim offset : Int) :
    e.get_scalar_active i j dim offset = e.get_scalar i j dim offset ∧
    e.get_reference i j dim offset = e.get_scalar i j dim offset ∧
    e.get_reference_active i j dim offset = e.get_scalar i j dim offset := overloads_agree e i j dim offset

-- `hp` is not used: the bound holds at every (i,j) inside the dimension, stored or not
set_option linter.unusedVariables false in
/-- stored_in_range: every stored position lies inside the allocation `[0, data_size(dim, offset))` -/
theorem C17_stored_in_range (e : Engine) (he : WF e) (dim offset i j : Int) (hd : 1 ≤ dim)
    (ho : e.pack_offset dim ≤ offset) (hi0 : 0 ≤ i) (hi : i < dim) (hj0 : 0 ≤ j) (hj : j < dim)
    (hp : InPattern e i j) :
    0 ≤ e.index i j offset ∧ e.index i j offset < e.data_size dim offset :=
  index_in_range e he dim offset i j hd ho hi0 hi hj0 hj

/-- stored_injective: two stored positions share a raw element only if they are the same position or, for a
    symmetric engine, mirror images -/
theorem C17_stored_injective (e : Engine) (he : WF e) (dim offset i j i' j' : Int)
    (ho : e.pack_offset dim ≤ offset) (hi0 : 0 ≤ i) (hi : i < dim) (hj0 : 0 ≤ j) (hj : j < dim)
    (hi0' : 0 ≤ i') (hi' : i' < dim) (hj0' : 0 ≤ j') (hj' : j' < dim)
    (hp : InPattern e i j) (hp' : InPattern e i' j')
    (h : e.index i j offset = e.index i' j' offset) :
    (i = i' ∧ j = j') ∨ (isSymm e = true ∧ i = j' ∧ j = i') :=
  index_injective e he dim offset i j i' j' ho hi0 hi hj0 hj hi0' hi' hj0' hj' hp hp' h

/-- mirror: a symmetric engine (either orientation) stores (i,j) and (j,i) in the same raw element -/
theorem C17_mirror (e : Engine) (hs : isSymm e = true) (i j offset : Int) :
    e.index i j offset = e.index j i offset := index_mirror e hs i j offset

/-- row_range: for every row, `get_row_range` enumerates exactly the columns of the positions a statement has to
    write (the pattern; for a symmetric engine the designated triangle), and `index_start + (j - j_start) *
    index_stride` is `index(i,j,offset)` for each of them -/
theorem C17_row_range (e : Engine) (he : WF e) (dim offset i : Int) (hi0 : 0 ≤ i) (hi : i < dim) :
    (∀ j, (e.get_row_range_j_start i dim offset ≤ j ∧ j < e.get_row_range_j_end_plus_1 i dim offset) ↔
          (0 ≤ j ∧ j < dim ∧ Canonical e i j)) ∧
    (∀ j, e.get_row_range_j_start i dim offset ≤ j → j < e.get_row_range_j_end_plus_1 i dim offset →
          e.get_row_range_index_start i dim offset
            + (j - e.get_row_range_j_start i dim offset) * e.get_row_range_index_stride i dim offset
          = e.index i j offset) := row_range_spec e he dim offset i hi0 hi

/-- every stored element is enumerated by `get_row_range`, directly or as the mirror image of an enumerated one -/
theorem C17_row_range_covers (e : Engine) (i j : Int) (hp : InPattern e i j) :
    Canonical e i j ∨ (isSymm e = true ∧ Canonical e j i) := by
  cases e
  case SymmEngine_ROW_LOWER_COL_UPPER => exact (le_total j i).imp id (fun h => ⟨rfl, h⟩)
  case SymmEngine_ROW_UPPER_COL_LOWER => exact (le_total i j).imp id (fun h => ⟨rfl, h⟩)
  all_goals exact Or.inl hp

/-- transpose_engine: `E::transpose_engine` on the same data, dimension and offset reads at (i,j) what `E` reads
    at (j,i); it is again admissible with the same packed offset and allocation size, has the transposed pattern,
    and transposing twice gives `E` back -/
theorem C17_transpose_engine (e : Engine) (he : WF e) (i j dim offset : Int) :
    e.transpose.get_scalar i j dim offset = e.get_scalar j i dim offset ∧
    WF e.transpose ∧ (InPattern e.transpose i j ↔ InPattern e j i) ∧
    e.transpose.pack_offset dim = e.pack_offset dim ∧ e.transpose.data_size dim offset = e.data_size dim offset ∧
    e.transpose.transpose = e :=
  ⟨transpose_get_scalar e i j dim offset, transpose_wf e he, transpose_pattern e i j,
   (transpose_sizes e dim offset).1, (transpose_sizes e dim offset).2, transpose_transpose e⟩

/-- the dense view: `M(i,j)` is the raw element `index(i,j,offset)` inside the pattern and 0 outside -/
theorem C17_read (m : SM) (d : Raw) (i j : Int) :
    (InPattern m.e i j → m.get d i j = d (m.base + m.e.index i j m.offset)) ∧
    (¬ InPattern m.e i j → m.get d i j = 0) := m.get_eq d i j

/-- symmetric engines read mirrored values: `M(i,j) = M(j,i)` -/
theorem C17_read_mirror (m : SM) (hs : isSymm m.e = true) (d : Raw) (i j : Int) : m.get d i j = m.get d j i := by
  rw [(m.get_eq d i j).1 (symm_all_pattern _ hs i j), (m.get_eq d j i).1 (symm_all_pattern _ hs j i),
    index_mirror m.e hs]

/-- write_hits_one: a write through `M(i,j)` (passive or active lvalue) changes the dense view at (i,j), at the
    mirror image for a symmetric engine, and nowhere else -/
theorem C17_write_hits_one (m : SM) (ha : m.Adm) (d : Raw) (act : Bool) (i j k v : Int)
    (hi0 : 0 ≤ i) (hi : i < m.dim) (hj0 : 0 ≤ j) (hj : j < m.dim) (href : m.ref act i j = some k)
    (i' j' : Int) (hi0' : 0 ≤ i') (hi' : i' < m.dim) (hj0' : 0 ≤ j') (hj' : j' < m.dim) :
    m.get (d.set k v) i' j' =
      if (i' = i ∧ j' = j) ∨ (isSymm m.e = true ∧ i' = j ∧ j' = i) then v else m.get d i' j' :=
  m.write_hits_one ha d act i j k v hi0 hi hj0 hj href i' j' hi0' hi' hj0' hj'

/-- lvalue access succeeds exactly on the pattern -/
theorem C17_lvalue (m : SM) (act : Bool) (i j : Int) :
    (InPattern m.e i j → m.ref act i j = some (m.base + m.e.index i j m.offset)) ∧
    (¬ InPattern m.e i j → m.ref act i j = none) := m.ref_eq act i j

/-- `M.T()` is the transposed dense matrix and is again an admissible object -/
theorem C17_transpose_view (m : SM) (ha : m.Adm) (d : Raw) (i j : Int) :
    m.T.get d i j = m.get d j i ∧ m.T.Adm := ⟨m.T_get d i j, m.T_adm ha⟩

/-- rhs_traversal: used as an operand of an expression (`set_location` at (i,j0), then `n` times
    `value_at_location` / `advance_location`), a special matrix delivers `M(i,j0), M(i,j0+1), …` -/
theorem C17_rhs_traversal (m : SM) (ha : m.Adm) (d : Raw) (i j0 : Int) (n : Nat) :
    m.rowFrom d (m.setLocation i j0) n = (List.range n).map (fun (t : Nat) => m.get d i (j0 + (t : Int))) :=
  m.rowFrom_spec ha d i n j0

/-- element-wise expressions over special matrices, dense matrices, scalar multiples and sums deliver, element by
    element, the same values as the same expression over the dense equivalents -/
theorem C17_expression_rows (r : RExpr) (hr : r.AllAdm) (i j0 : Int) (n : Nat) :
    r.row i j0 n = (List.range n).map (fun (t : Nat) => r.val i (j0 + (t : Int))) := r.row_spec hr i j0 n

/-- conversion to a dense `Matrix` (`Matrix D(expr)`, `D = expr`) stores `expr(i,j)` at every (i,j) -/
theorem C17_to_dense (r : RExpr) (hr : r.AllAdm) (n : Nat) :
    r.toDense n =
      (List.range n).flatMap (fun (i : Nat) => (List.range n).map (fun (j : Nat) => r.val (i : Int) (j : Int))) := by
  simp only [RExpr.toDense]
  congr 1
  funext i
  rw [r.row_spec hr]
  apply List.map_congr_left
  intro t _
  simp

/-- assignment `M = expr` (from a dense matrix, a scalar or an expression; no aliasing): every position
    `get_row_range` enumerates receives the value of the right-hand side there and no other raw element changes -/
theorem C17_assign_raw (m : SM) (ha : m.Adm) (rhs : RExpr) (hr : rhs.AllAdm) (d : Raw) :
    (∀ i j : Int, 0 ≤ i → i < m.dim → 0 ≤ j → j < m.dim → Canonical m.e i j →
        m.assign rhs d (m.base + m.e.index i j m.offset) = rhs.val i j) ∧
    (∀ k : Int, (∀ i j : Int, 0 ≤ i → i < m.dim → 0 ≤ j → j < m.dim → Canonical m.e i j →
        k ≠ m.base + m.e.index i j m.offset) → m.assign rhs d k = d k) := (m.assign_raw ha rhs hr d).curried

/-- hence the dense view after `M = expr` is `expr` on the pattern (for a symmetric engine: the triangle its
    orientation designates, mirrored) and zero elsewhere -/
theorem C17_assign_view (m : SM) (ha : m.Adm) (rhs : RExpr) (hr : rhs.AllAdm) (d : Raw) (i j : Int)
    (hi0 : 0 ≤ i) (hi : i < m.dim) (hj0 : 0 ≤ j) (hj : j < m.dim) :
    (Canonical m.e i j → m.get (m.assign rhs d) i j = rhs.val i j) ∧
    (isSymm m.e = true → Canonical m.e j i → m.get (m.assign rhs d) i j = rhs.val j i) ∧
    (¬ InPattern m.e i j → m.get (m.assign rhs d) i j = 0) := (m.assign_raw ha rhs hr d).view i j hi0 hi hj0 hj

/-- diag_vector(k): when it does not throw, element `t` of the returned view is `M(t, t+k)` (`k ≥ 0`) resp.
    `M(t-k, t)` (`k < 0`), a stored position, and the view has `dim - |k|` elements; it throws exactly when the whole
    diagonal lies outside the pattern (where the dense equivalent is zero) -/
theorem C17_diag_vector (m : SM) (ha : m.Adm) (k : Int) :
    (∀ v, m.diag k = some v →
        v.len = (if k ≥ 0 then m.dim - k else m.dim + k) ∧
        ∀ (d : Raw) (t : Int), InPattern m.e (drow k t) (dcol k t) ∧
          d (v.base + t * v.stride) = m.get d (drow k t) (dcol k t)) ∧
    (m.diag k = none →
        ∀ (d : Raw) (t : Int), ¬ InPattern m.e (drow k t) (dcol k t) ∧ m.get d (drow k t) (dcol k t) = 0) := by
  by_cases hk : k ≥ 0
  · simp only [SM.diag, drow, dcol, if_pos hk]
    exact m.diag_branch _ _ _ (fun t => t) (fun t => t + k)
      (fun t => check_upper_diag_false_iff m.e ha.wf k t hk) (fun t => upper_offset_index m.e m.dim m.offset k t hk)
  · simp only [SM.diag, drow, dcol, if_neg hk]
    exact m.diag_branch _ _ _ (fun t => t - k) (fun t => t)
      (fun t => check_lower_diag_false_iff m.e ha.wf k t (by omega)) (fun t => lower_offset_index m.e m.dim m.offset k t (by omega))

/-- submatrix_on_diagonal(a,b): throws exactly for an invalid range; otherwise the result is an admissible object
    of dimension `b-a+1` whose (i,j) is `M(a+i, a+j)` -/
theorem C17_submatrix (m : SM) (ha : m.Adm) (a b : Int) :
    (m.sub a b = none ↔ ¬ (0 ≤ a ∧ a ≤ b ∧ b < m.dim)) ∧
    (∀ x, m.sub a b = some x →
        x.Adm ∧ x.dim = b - a + 1 ∧ ∀ (d : Raw) (i j : Int), x.get d i j = m.get d (a + i) (a + j)) := by
  by_cases hc : a < 0 ∨ a > b ∨ b ≥ m.dim
  · simp only [SM.sub, if_pos hc]
    refine ⟨⟨fun _ => by omega, fun _ => trivial⟩, fun x hx => by simp at hx⟩
  · simp only [SM.sub, if_neg hc]
    refine ⟨⟨fun h => by simp at h, fun h => absurd (by omega) h⟩, fun x hx => ?_⟩
    simp only [Option.some.injEq] at hx
    subst hx
    refine ⟨⟨ha.wf, by show 1 ≤ b - a + 1; omega, ?_⟩, rfl, fun d i j => ?_⟩
    · show m.e.pack_offset (b - a + 1) ≤ m.offset
      exact le_trans (pack_offset_mono m.e m.dim (b - a + 1) (by omega)) ha.off
    · simp only [SM.get]
      rw [shift_spec m.e a i j m.dim (b - a + 1) m.offset]
      cases m.e.get_scalar i j (b - a + 1) m.offset with
      | none => rfl
      | some k => simp only [Option.map_some]; congr 1; ring

/-- `v.diag_matrix()` (Array.h) of a vector view with stride `s ≥ 1` — a `BandEngine<ROW_MAJOR,0,0>` matrix on the
    vector's data with offset `s-1` — is an admissible object (so all theorems above apply to it, packed or not) and
    its diagonal element (i,i) is the vector's element i -/
theorem C17_diag_matrix_view (n s b : Int) (hn : 1 ≤ n) (hs : 1 ≤ s) (d : Raw) (i : Int) :
    let m : SM := { e := .BandEngine_ROW_MAJOR 0 0, dim := n, offset := s - 1, base := b }
    m.Adm ∧ m.get d i i = d (b + i * s) := by
  intro m
  refine ⟨⟨⟨le_refl _, le_refl _⟩, hn, ?_⟩, ?_⟩
  · show Engine.pack_offset (.BandEngine_ROW_MAJOR 0 0) n ≤ s - 1
    simp only [pack_offset_eq]; omega
  · have hp : InPattern m.e i i := by show i - 0 ≤ i ∧ i ≤ i + 0; omega
    rw [(m.get_eq d i i).1 hp]
    show d (b + Engine.index (.BandEngine_ROW_MAJOR 0 0) i i (s - 1)) = _
    rw [index_diag]
    congr 1; ring

/-- alias_conservative: `is_aliased` (the `data_range` overlap test of `SpecialMatrix::is_aliased_`, combined over
    the expression tree) errs only on the safe side.  If it answers false for the target's `data_range`, no stored
    element of the target is a stored element of any special-matrix leaf of the right-hand side — for every
    engine, size, offset and base address of target and leaves (blocks of one matrix, transposes, other matrices
    in the same Storage object).  The boundary matters: `data_end` points AT the last element, so the test must be
    `ptr_end >= mem1` (see the example below, where the two ranges share exactly one element). -/
theorem C17_alias_conservative (m : SM) (ha : m.Adm) (rhs : AExpr) (hr : rhs.AllAdm) (hp : rhs.Plain)
    (h : rhs.isAliased m.dataBegin m.dataEnd = false) (k : Int) (hk : m.Stores k) : ¬ rhs.Stores k :=
  fun hs => rhs.not_aliased_range hp _ _ h k (rhs.stores_in_range hr k hs) (m.stores_in_range ha k hk)

/-- self_assign_semantics: `M = rhs` (`SpecialMatrix::operator=(const Expression&)`: alias test, then either a
    temporary copy or the in-place row traversal in which every `next_value` reads the storage as the previous
    stores left it) where the leaves of `rhs` are special matrices in M's OWN Storage object — anywhere in it,
    overlapping M or not — written without `noalias` wrappers (`rhs.Plain`; a wrapper switches the test off, see
    `C17_compound_semantics` for the one the compound operators add).  The result is "evaluate the whole right-hand side, then store": every position
    `get_row_range` enumerates holds the value the right-hand side had there BEFORE the statement (`rhs.bind d`
    reads the old storage `d`), and no other raw element changes.  All engines, sizes, offsets. -/
theorem C17_self_assign_semantics (m : SM) (ha : m.Adm) (rhs : AExpr) (hr : rhs.AllAdm) (hp : rhs.Plain)
    (hn : rhs.DimIs m.dim) (d : Raw) :
    (∀ i j : Int, 0 ≤ i → i < m.dim → 0 ≤ j → j < m.dim → Canonical m.e i j →
        m.assignExpr rhs d (m.base + m.e.index i j m.offset) = (rhs.bind d).val i j) ∧
    (∀ k : Int, (∀ i j : Int, 0 ≤ i → i < m.dim → 0 ≤ j → j < m.dim → Canonical m.e i j →
        k ≠ m.base + m.e.index i j m.offset) → m.assignExpr rhs d k = d k) :=
  (m.assignExpr_spec ha rhs hr hp hn d).curried

/-- the same, as one equation: the statement leaves the storage exactly as the alias-free assignment
    (`C17_assign_raw`, `C17_assign_view`) from a snapshot of the storage taken before the statement -/
theorem C17_self_assign_snapshot (m : SM) (ha : m.Adm) (rhs : AExpr) (hr : rhs.AllAdm) (hp : rhs.Plain)
    (hn : rhs.DimIs m.dim) (d : Raw) (k : Int) : m.assignExpr rhs d k = m.assign (rhs.bind d) d k := by
  exact (m.assignExpr_spec ha rhs hr hp hn d).unique (m.assign_raw ha (rhs.bind d) (rhs.bind_allAdm hr d) d) k

/-- compound_semantics: the compound operators `M += rhs`, `M -= rhs`, `M *= rhs`, `M /= rhs`
    (`*this = (noalias(*this) OP rhs)`: the alias test of `operator=` sees only `rhs`, the wrapped target is never
    reported) for a right-hand side whose leaves are special matrices ANYWHERE in M's own Storage object (M itself,
    its transpose, shifted sub-blocks, other blocks), dense operands, scalar multiples, sums and element-wise
    operations.  Every position `get_row_range` enumerates holds `old M(i,j) OP rhs(i,j)` with `rhs` evaluated over
    the storage as it was BEFORE the statement, and no other raw element changes (the zero structure and the rest of
    the Storage object are kept).  For every operation `OP : Int → Int → Int`, every engine, size, offset. -/
theorem C17_compound_semantics (m : SM) (ha : m.Adm) (o : BinOp) (rhs : AExpr) (hr : rhs.AllAdm) (hp : rhs.Plain)
    (hn : rhs.DimIs m.dim) (d : Raw) :
    (∀ i j : Int, 0 ≤ i → i < m.dim → 0 ≤ j → j < m.dim → Canonical m.e i j →
        m.compound o rhs d (m.base + m.e.index i j m.offset)
          = o.apply (d (m.base + m.e.index i j m.offset)) ((rhs.bind d).val i j)) ∧
    (∀ k : Int, (∀ i j : Int, 0 ≤ i → i < m.dim → 0 ≤ j → j < m.dim → Canonical m.e i j →
        k ≠ m.base + m.e.index i j m.offset) → m.compound o rhs d k = d k) :=
  (m.compound_spec ha o rhs hr hp hn d).curried

/-- the compound operators with a scalar on the right, `M += c`, `M -= c`, `M *= c`, `M /= c`: every position
    `get_row_range` enumerates holds `old M(i,j) OP c`, nothing else changes -/
theorem C17_compound_scalar_semantics (m : SM) (ha : m.Adm) (o : BinOp) (c : Int) (d : Raw) :
    (∀ i j : Int, 0 ≤ i → i < m.dim → 0 ≤ j → j < m.dim → Canonical m.e i j →
        m.compoundScalar o c d (m.base + m.e.index i j m.offset) = o.apply (d (m.base + m.e.index i j m.offset)) c) ∧
    (∀ k : Int, (∀ i j : Int, 0 ≤ i → i < m.dim → 0 ≤ j → j < m.dim → Canonical m.e i j →
        k ≠ m.base + m.e.index i j m.offset) → m.compoundScalar o c d k = d k) :=
  (m.compoundScalar_spec ha o c d).curried

/-- hence the dense view after `M OP= rhs` is `(M OP rhs)` computed on the dense equivalents from the values before
    the statement on the pattern (for a symmetric engine: the triangle its orientation designates, mirrored) and
    zero elsewhere -/
theorem C17_compound_view (m : SM) (ha : m.Adm) (o : BinOp) (rhs : AExpr) (hr : rhs.AllAdm) (hp : rhs.Plain)
    (hn : rhs.DimIs m.dim) (d : Raw) (i j : Int) (hi0 : 0 ≤ i) (hi : i < m.dim) (hj0 : 0 ≤ j) (hj : j < m.dim) :
    (Canonical m.e i j → m.get (m.compound o rhs d) i j = o.apply (m.get d i j) ((rhs.bind d).val i j)) ∧
    (isSymm m.e = true → Canonical m.e j i →
        m.get (m.compound o rhs d) i j = o.apply (m.get d j i) ((rhs.bind d).val j i)) ∧
    (¬ InPattern m.e i j → m.get (m.compound o rhs d) i j = 0) := by
  obtain ⟨v1, v2, v3⟩ := (m.compound_spec ha o rhs hr hp hn d).view i j hi0 hi hj0 hj
  refine ⟨fun hc => ?_, fun hs hc => ?_, v3⟩
  · rw [v1 hc, (m.get_eq d i j).1 (canonical_pattern _ _ _ hc)]
  · rw [v2 hs hc, (m.get_eq d j i).1 (canonical_pattern _ _ _ hc)]

/-- the positions a statement writes (`SM.canonPositions`: row by row, the columns `get_row_range` enumerates) are
    exactly the canonical positions inside the dimension, each listed once, and different positions have different
    addresses -/
theorem C17_written_positions (m : SM) (ha : m.Adm) :
    (∀ p : Int × Int, p ∈ m.canonPositions ↔
        (0 ≤ p.1 ∧ p.1 < m.dim ∧ 0 ≤ p.2 ∧ p.2 < m.dim ∧ Canonical m.e p.1 p.2)) ∧
    m.canonPositions.Nodup ∧ (m.canonPositions.map m.addr).Nodup :=
  ⟨m.mem_canonPositions ha, m.canonPositions_nodup, m.canonAddrs_nodup ha⟩

/-- active_scalar_statements: `A = x` for an ACTIVE special matrix (any engine / orientation / sub-block / `A.T()`
    lvalue) and an active scalar `x` with gradient index `gx`, while recording
    (`operator=(const Active<PType>&)`): the values stored are those of the passive scalar assignment (`val` at every
    canonical position, nothing else touched), and the tape receives exactly one statement per written position, in
    row order, whose left-hand side is `gradient_index() + index` of THAT stored element and whose single operation
    is `(1.0, gx)` -/
theorem C17_active_scalar_statements (m : SM) (ha : m.Adm) (val gx : Int) (d : Raw) :
    m.assignActiveScalar val gx d
      = (m.assign (.dense (fun _ _ => val)) d, m.canonPositions.map (fun p => (⟨m.addr p, [(1, gx)]⟩ : SM.Stmt))) := by
  rw [SM.assignActiveScalar, m.rows_fold ha _ _ (fun s i hi => m.activeScalarRowOf_eq ha val gx s i hi),
    m.assign_eq ha (.dense (fun _ _ => val)) trivial]
  exact foldl_store_record m.addr (fun _ => val) (fun p => ⟨m.addr p, [(1, gx)]⟩) m.canonPositions (d, [])

/-- passive_scalar_statements: `A = c` for an active special matrix and a passive scalar
    (`assign_inactive_scalar<true>`, one `push_lhs_range` per row): one statement WITHOUT operations per written
    position, in row order, left-hand side = gradient index of the stored element -/
theorem C17_passive_scalar_statements (m : SM) (ha : m.Adm) :
    m.recPassiveScalar.map SM.Stmt.lhs = m.canonPositions.map m.addr ∧ ∀ s ∈ m.recPassiveScalar, s.ops = [] := by
  constructor
  · rw [← m.canonAddrs_rows ha, SM.recPassiveScalar, List.map_flatMap]
    exact List.flatMap_congr fun i _ => SM.lhsRange_lhs _ _ _
  · intro s hs
    simp only [SM.recPassiveScalar, List.mem_flatMap] at hs
    obtain ⟨i, _, hs⟩ := hs
    exact SM.lhsRange_ops _ _ _ s hs

/-- active_expr_statements: `A = rhs` for an active special matrix and an active expression
    (`assign_expression_<true,true>`): one statement per written position, in row order; its left-hand side is the
    gradient index of the stored element, its operations are those the right-hand side pushes at that (i,j) -/
theorem C17_active_expr_statements (m : SM) (ha : m.Adm) (rhs : AExpr) (hr : rhs.AllAdm) :
    (m.recExpr rhs).map SM.Stmt.lhs = m.canonPositions.map m.addr ∧
    (m.recExpr rhs).map SM.Stmt.ops = m.canonPositions.map (fun p => (rhs.setLocation p.1 p.2).grads 1) := by
  constructor
  · rw [← m.canonAddrs_rows ha, SM.recExpr, List.map_flatMap]
    exact List.flatMap_congr fun i _ => m.recRow_lhs _ _ _ _
  · simp only [SM.recExpr, SM.canonPositions, List.map_flatMap, List.map_map]
    refine List.flatMap_congr fun i _ => ?_
    simp only [SM.recRowOf, SM.rowLen, Function.comp_def]
    exact m.recRow_ops rhs hr _ _ _ _ _

/-- an active special-matrix leaf positioned at (i,j) pushes `(multiplier, gradient index of its stored element
    (i,j))` inside its pattern and nothing at a structural zero -/
theorem C17_leaf_gradient (m : SM) (ha : m.Adm) (l : SM.Loc) (i j mult : Int) :
    (InPattern m.e i j → ((AExpr.sm m l).setLocation i j).grads mult = [(mult, m.base + m.e.index i j m.offset)]) ∧
    (¬ InPattern m.e i j → ((AExpr.sm m l).setLocation i j).grads mult = []) := by
  simp only [AExpr.setLocation, AExpr.grads, SM.setLocation]
  rw [value_at_spec m.e ha.wf m.dim m.offset i j ha.dim_pos ha.off, get_scalar_eq]
  exact ⟨fun h => by rw [if_pos h], fun h => by rw [if_neg h]⟩

/-! Non-vacuity.  The hypotheses (`WF`, `SM.Adm`, `AllAdm`) are met by every matrix the library can create; in
particular by the packed column-major diagonal matrix (offset 0) of finding F-27, and the theorems
compute the right thing on it: `Matrix(D.T())` for `DiagMatrix D(2)` holding 1, 2 is `{{1,0},{0,2}}`. -/
example : (SM.packed (.BandEngine_ROW_MAJOR 0 0) 2).T.Adm := ⟨⟨by decide, by decide⟩, by decide, by decide⟩
example : (SM.packed (.BandEngine_ROW_MAJOR 0 0) 2).T.e = .BandEngine_COL_MAJOR 0 0 := rfl
example : (RExpr.sm (SM.packed (.BandEngine_ROW_MAJOR 0 0) 2).T ⟨fun k => k + 1⟩).toDense 2 = [1, 0, 0, 2] := by decide
example : (SM.packed (.BandEngine_COL_MAJOR 3 1) 5).Adm := ⟨⟨by decide, by decide⟩, by decide, by decide⟩
example : (SM.packed .SymmEngine_ROW_UPPER_COL_LOWER 4).Adm := ⟨trivial, by decide, by decide⟩
example : ∃ x, (SM.packed .SymmEngine_ROW_LOWER_COL_UPPER 4).sub 1 2 = some x ∧ x.offset = 4 ∧ x.dim = 2 :=
  ⟨_, rfl, rfl, rfl⟩
example : InPattern (.BandEngine_ROW_MAJOR 3 1) 4 1 ∧ ¬ InPattern (.BandEngine_ROW_MAJOR 3 1) 0 2 := by
  simp only [InPattern]; omega
example : ∃ v, (SM.packed (.BandEngine_ROW_MAJOR 1 1) 4).diag 1 = some v ∧ v.len = 3 := ⟨_, rfl, rfl⟩
example : (SM.packed (.BandEngine_ROW_MAJOR 1 1) 4).diag 2 = none := rfl

/-! Self-referential statements: `S.submatrix_on_diagonal(2,4) = 2.0*S.submatrix_on_diagonal(0,2)` for a 5x5
`SquareMatrix` whose raw element k holds k+1.  Source block and target block share exactly the corner element
S(2,2) (raw element 12): the source's `data_end` EQUALS the target's `data_begin`, `is_aliased` answers true, and
the statement stores 2*13 = 26 in S(4,4).  The in-place path alone (what a test `ptr_end > mem1` would select) reads
the already overwritten corner and stores 2*(2*1) = 4; for a block that does not touch the target the alias test
answers false and the in-place path is taken. -/
example : ∃ x y, (SM.packed .SquareEngine_ROW_MAJOR 5).sub 2 4 = some x ∧ (SM.packed .SquareEngine_ROW_MAJOR 5).sub 0 2 = some y ∧
    x.Adm ∧ y.Adm ∧ y.dataEnd = x.dataBegin ∧ (AExpr.scale (.leaf y) 2).isAliased x.dataBegin x.dataEnd = true ∧
    x.assignExpr (.scale (.leaf y) 2) ⟨fun k => k + 1⟩ 24 = 26 ∧
    x.assignInPlace (.scale (.leaf y) 2) ⟨fun k => k + 1⟩ 24 = 4 :=
  ⟨_, _, rfl, rfl, ⟨trivial, by decide, by decide⟩, ⟨trivial, by decide, by decide⟩, by decide, by decide, by decide,
    by decide⟩
example : ∃ x y, (SM.packed .SquareEngine_ROW_MAJOR 5).sub 3 4 = some x ∧ (SM.packed .SquareEngine_ROW_MAJOR 5).sub 0 1 = some y ∧
    (AExpr.scale (.leaf y) 2).isAliased x.dataBegin x.dataEnd = false ∧ (AExpr.scale (.leaf y) 2).DimIs x.dim :=
  ⟨_, _, rfl, rfl, by decide, rfl⟩

/-! Compound operators.  `S -= S.T()` for the 2x2 `SquareMatrix` holding 1,2,3,4: `operator-=` builds
`noalias(S) - S.T()`, the alias test sees `S.T()`, answers true, and the statement stores `{{0,-1},{1,0}}`.  With the
wrapper around the WHOLE right-hand side (`noalias(S - S.T())`, the variant the property excludes) the test is
switched off, the in-place traversal reads the already overwritten S(0,1) when it computes S(1,0), and the result is
`{{0,-1},{4,0}}` — so the hypothesis `rhs.Plain` of `C17_compound_semantics` cannot be dropped. -/
example : (SM.packed .SquareEngine_ROW_MAJOR 2).Adm ∧
    (AExpr.leaf (SM.packed .SquareEngine_ROW_MAJOR 2).T).Plain ∧ (AExpr.leaf (SM.packed .SquareEngine_ROW_MAJOR 2).T).AllAdm ∧
    (AExpr.leaf (SM.packed .SquareEngine_ROW_MAJOR 2).T).DimIs (SM.packed .SquareEngine_ROW_MAJOR 2).dim :=
  ⟨⟨trivial, by decide, by decide⟩, trivial, ⟨trivial, by decide, by decide⟩, rfl⟩
example : let S := SM.packed .SquareEngine_ROW_MAJOR 2
    (List.range 4).map (fun (k : Nat) => S.compound .sub (.leaf S.T) ⟨fun k => k + 1⟩ k) = [0, -1, 1, 0] ∧
    (List.range 4).map (fun (k : Nat) =>
      S.assignExpr (.noalias (.bin .sub (.leaf S) (.leaf S.T))) ⟨fun k => k + 1⟩ k) = [0, -1, 4, 0] := by decide +kernel
/-! Active matrices.  `A.T() = x` for a 3x3 active `LowerMatrix` A (the lvalue `A.T()` is a column-major upper
matrix on A's storage, index stride 3 along a row): the written positions are (0,0) (0,1) (0,2) (1,1) (1,2) (2,2) and
the recorded left-hand sides are the raw elements 0, 3, 6, 4, 7, 8 of A — not 0, 1, 2, … -/
example : (SM.packed .LowerEngine_ROW_MAJOR 3).T.canonPositions = [(0, 0), (0, 1), (0, 2), (1, 1), (1, 2), (2, 2)] ∧
    ((SM.packed .LowerEngine_ROW_MAJOR 3).T.assignActiveScalar 5 (-1) ⟨fun k => k + 1⟩).2.map SM.Stmt.lhs = [0, 3, 6, 4, 7, 8] := by
  decide +kernel

end Adept.Special
