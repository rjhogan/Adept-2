import AdeptProofs.Props.C18
/-!
# C19 — each algorithm finds the box-constrained minimum of a convex quadratic (soundness half)

What a proof can carry (DESIGN section 5, C19): uniqueness of the point satisfying the first-order conditions, so
that the oracle's "the KKT point" is meaningful; "converged" implies those conditions to the tolerance; a step that
reaches a face flags the variable that reached it.  That every algorithm DOES converge within an iteration budget
is explored against an exact active-set oracle (checks/c19.py), not proved.
-/
namespace Adept.Minimizer
-- fixed statements below carry `δ` and order instances they do not use
set_option linter.unusedSectionVars false

variable {α : Type} [Field α] [LinearOrder α] [IsStrictOrderedRing α] {δ : Type}

/-- **kkt_unique**: for a positive definite `H` and any box, at most one point satisfies the first-order
    optimality conditions of `min 1/2 (x-c)ᵀ H (x-c)` subject to `lo ≤ x ≤ up` -/
theorem C19_kkt_unique {n : Nat} {H : Nat → Nat → α} {c lo up x y : Vec α} (hH : PosDef n H)
    (hx : KKT n H c lo up x) (hy : KKT n H c lo up y) : ∀ i < n, x i = y i := by
  by_contra hne
  push Not at hne
  obtain ⟨i0, hi0, hxy⟩ := hne
  have hpos := hH (fun i => x i - y i) ⟨i0, hi0, sub_ne_zero.mpr hxy⟩
  -- summing the variational inequality at `x` towards `y` and at `y` towards `x` ...
  have hs1 : 0 ≤ ∑ i ∈ Finset.range n, qGrad n H c x i * (y i - x i) :=
    Finset.sum_nonneg fun i hi => kkt_vi hx hy.1 i (Finset.mem_range.mp hi)
  have hs2 : 0 ≤ ∑ i ∈ Finset.range n, qGrad n H c y i * (x i - y i) :=
    Finset.sum_nonneg fun i hi => kkt_vi hy hx.1 i (Finset.mem_range.mp hi)
  -- ... gives minus the quadratic form of `x - y`
  have key : ∑ i ∈ Finset.range n, (x i - y i) * ∑ j ∈ Finset.range n, H i j * (x j - y j) =
      -(∑ i ∈ Finset.range n, qGrad n H c x i * (y i - x i) +
        ∑ i ∈ Finset.range n, qGrad n H c y i * (x i - y i)) := by
    rw [← Finset.sum_add_distrib, ← Finset.sum_neg_distrib]
    apply Finset.sum_congr rfl
    intro i _
    have : ∑ j ∈ Finset.range n, H i j * (x j - y j) = qGrad n H c x i - qGrad n H c y i := by
      unfold qGrad
      rw [← Finset.sum_sub_distrib]
      apply Finset.sum_congr rfl
      intro j _; ring
    rw [this]; ring
  rw [key] at hpos
  linarith

/-- **no_false_capture** (Levenberg family, after F-18): the fraction of the step that is taken is the smallest
    collision fraction of both collision sets, and the variable that is flagged is one whose fraction it is — the
    argmin — so no variable is left free beyond the face it has reached, and the flagged one lands on its face -/
theorem C19_no_false_capture (n : Nat) (free : Nat → Bool) (x dx lo up : Vec α) (hx : Box n lo up x) :
    (∀ j ∈ colMin n free x dx lo, (lmCapture n free x dx lo up).frac ≤ fracMin x dx lo j) ∧
    (∀ j ∈ colMax n free x dx up, (lmCapture n free x dx lo up).frac ≤ fracMax x dx up j) ∧
    ((lmCapture n free x dx lo up).ty = -1 →
      (lmCapture n free x dx lo up).idx ∈ colMin n free x dx lo ∧
      (lmCapture n free x dx lo up).frac = fracMin x dx lo (lmCapture n free x dx lo up).idx ∧
      x (lmCapture n free x dx lo up).idx + dx (lmCapture n free x dx lo up).idx * (lmCapture n free x dx lo up).frac
        = lo (lmCapture n free x dx lo up).idx) ∧
    ((lmCapture n free x dx lo up).ty = 1 →
      (lmCapture n free x dx lo up).idx ∈ colMax n free x dx up ∧
      (lmCapture n free x dx lo up).frac = fracMax x dx up (lmCapture n free x dx lo up).idx ∧
      x (lmCapture n free x dx lo up).idx + dx (lmCapture n free x dx lo up).idx * (lmCapture n free x dx lo up).frac
        = up (lmCapture n free x dx lo up).idx) := by
  have h := lmCapture_spec n free (dx := dx) hx
  have hl := lmCapture_lands n free (dx := dx) hx
  exact ⟨h.le_min, h.le_max, fun ht => ⟨(h.lower ht).1, (h.lower ht).2, hl.1 ht⟩,
    fun ht => ⟨(h.upper ht).1, (h.upper ht).2, hl.2 ht⟩⟩

/-- the nearest-bound loop of the line-search minimizers names a variable that attains the minimal distance -/
theorem C19_no_false_capture_ls (n : Nat) (big nd : α) (x d lo up : Vec α) (i : Nat)
    (hi : (nearestBound n big nd x d lo up).idx = some i) :
    ∀ j < n, (d j > 0 ∧ up j < big → (nearestBound n big nd x d lo up).b ≤ nd * (up j - x j) / d j) ∧
             (d j < 0 ∧ lo j > -big → (nearestBound n big nd x d lo up).b ≤ nd * (lo j - x j) / d j) :=
  (nearestBound_spec n big nd x d lo up).2

/-- **converged_is_kkt** (line-search minimizers, exact form).  Suppose the pass that declares convergence tested
    the true gradient `qGrad` of the quadratic at a state `x` in the box with truthful flags, with threshold `0` and a
    definite norm (flags take the values 0, ∓1: `hrange`).  Then `x` satisfies the first-order conditions — hence, by `C19_kkt_unique`, it is THE
    constrained minimum.  (For a positive threshold the same argument gives the conditions up to the threshold:
    `C18_converged_means`.) -/
theorem C19_converged_is_kkt (S : Settings α) (nrm : Vec α → α) (D : DirStrategy α δ) (st1 : DSt α δ)
    (H : Nat → Nat → α) (c : Vec α)
    (hn : NormDef S.n nrm) (htol : S.tol = 0)
    (hbox : Box S.n S.lo S.up st1.x) (hvalid : ValidBounds S.n S.lo S.up)
    (hg : ∀ i < S.n, st1.g i = qGrad S.n H c st1.x i)
    (hflags : FlagsTrue S.n S.lo S.up st1.x st1.bs)
    (hrange : ∀ i < S.n, st1.bs i = 0 ∨ st1.bs i = -1 ∨ st1.bs i = 1)
    (h1 : st1.status = .notYet) (h : (lsRelease S nrm D st1).status = .success) :
    KKT S.n H c S.lo S.up st1.x := by
  obtain ⟨hgn, hsign⟩ := C18_converged_means S nrm D st1 h1 h
  have hbs : (lsRelease S nrm D st1).bs = releaseCG st1.bs st1.g := rfl
  have hzero : ∀ i < S.n, (lsRelease S nrm D st1).bs i = 0 → st1.g i = 0 := by
    intro i hi hb
    unfold gradNorm at hgn
    have hnf : nFree S.n (lsRelease S nrm D st1).bs > 0 := by
      unfold nFree
      apply List.length_pos_of_mem (a := i)
      simp [List.mem_filter, hi, hb]
    rw [if_pos hnf, htol] at hgn
    have h0 := (hn _).2 (le_antisymm hgn (hn _).1) i hi
    simpa [maskGrad, hb] using h0
  refine ⟨hbox, fun i hi => ?_⟩
  have hfi := hflags i hi
  have hvi := hvalid i hi
  rw [← hg i hi]
  have hrel : (lsRelease S nrm D st1).bs i = st1.bs i ∨ (lsRelease S nrm D st1).bs i = 0 := by
    rw [hbs]; simp only [releaseCG]; split
    · exact Or.inr rfl
    · exact Or.inl rfl
  have hinfo : (st1.x i = S.lo i → 0 ≤ st1.g i) ∧ (st1.x i = S.up i → st1.g i ≤ 0) ∧
      (S.lo i < st1.x i → st1.x i < S.up i → st1.g i = 0) := by
    by_cases hb0 : (lsRelease S nrm D st1).bs i = 0
    · have hz := hzero i hi hb0
      exact ⟨fun _ => hz.ge, fun _ => hz.le, fun _ _ => hz⟩
    · rcases hrel with hr | hr
      · have hs := hsign i
        rw [hr] at hs hb0
        rcases hrange i hi with h0 | hm | hp
        · exact absurd h0 hb0
        · have hx := hfi.1 hm
          refine ⟨fun _ => hs.1 hm, fun hu => ?_, fun hl _ => ?_⟩
          · rw [hx] at hu; exact absurd hu hvi.ne
          · rw [hx] at hl; exact absurd hl (lt_irrefl _)
        · have hx := hfi.2 hp
          refine ⟨fun hl => ?_, fun _ => hs.2 hp, fun _ hu => ?_⟩
          · rw [hx] at hl; exact absurd hl hvi.ne'
          · rw [hx] at hu; exact absurd hu (lt_irrefl _)
      · exact absurd hr hb0
  exact hinfo

end Adept.Minimizer
