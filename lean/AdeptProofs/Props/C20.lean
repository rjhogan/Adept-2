import AdeptProofs.Lemmas.Interp
/-!
# C20 — interpolation reproduces the piecewise-linear / nearest interpolant

Property theorems only; the vocabulary they are stated in (`Knots`, `Inside`, `IsPWL`, `IsNearestLow`, `Bracketed`,
`op1`, `interp1Elem`, …) and the lemmas live in `AdeptProofs/Lemmas/Interp.lean`.

All statements are about `AdeptModel/Interp.lean`, the transcription of `include/adept/interp.h`
(`interp`, `interp2d`, `interp3d`, `interp_get_indices_weights`, `extract_interp_extrap`) WITH the repair
of finding F-15 (fixes/F-15.patch); the correspondence check (checks/c20.py) ties that model to the C++
on every run.  They hold for every linear ordered field `α`, every knot count `n ≥ 2`, every strictly
monotone knot vector in either direction and every query; nothing is decided on a sample.

F-15: without the repair the end branches of `interp` read `else if (extrap_policy == ADEPT_EXTRAPOLATE_CLAMP)`,
i.e. `endBranch` without the disjunct `beq q (fin (x jend))`.  For that definition `C20_interp1_spec` and
`C20_interp1_knots` are false under the constant policy: knots 1 2 4, data 10 20 40, value -1, query 1 gives
`.extrap`, hence -1 ≠ 10.
-/
-- the array-level statements and `C20_nan_query_linear` carry the order instance of the section without using it
set_option linter.unusedSectionVars false
namespace Adept.Interp
open Ext

variable {α : Type} [Field α] [LinearOrder α] [IsStrictOrderedRing α]

/-- `extract_interp_extrap`: the word is accepted iff the scheme bits are 0 (linear) or 1 (nearest), the
    policy is 0..3, and it is not nearest + linear extrapolation; everything else is `array_exception`.
    The default policy becomes linear extrapolation for the linear scheme and clamp for nearest. -/
theorem C20_options (o : Nat) :
    extractInterpExtrap o =
      if (o / 16 = 0 ∨ o / 16 = 1) ∧ o % 16 ≤ 3 ∧ ¬ (o / 16 = 1 ∧ o % 16 = 1) then
        .ok (16 * (o / 16), if o % 16 = 0 then (if o / 16 = 0 then 1 else 2) else o % 16)
      else .error .arrayException := by
  -- `options & ~15` is `16 * (options / 16)`
  have e : o - o % 16 = 16 * (o / 16) := Nat.sub_eq_of_eq_add (Nat.div_add_mod o 16).symm
  unfold extractInterpExtrap
  simp only [e, ADEPT_INTERPOLATE_LINEAR, ADEPT_INTERPOLATE_NEAREST,
    ADEPT_EXTRAPOLATE_CONSTANT, ADEPT_EXTRAPOLATE_LINEAR, ADEPT_EXTRAPOLATE_DEFAULT, ADEPT_EXTRAPOLATE_CLAMP]
  generalize o / 16 = s
  generalize o % 16 = p
  have s0 : 16 * s = 0 ↔ s = 0 := by simp
  have s1 : 16 * s = 16 ↔ s = 1 := by simp
  simp only [s0, s1, ne_eq, gt_iff_lt]
  by_cases hs : s = 0 ∨ s = 1
  · rw [if_neg (fun h => hs.elim h.1 h.2)]
    by_cases hp : 3 < p
    · rw [if_pos hp, if_neg (fun h => absurd h.2.1 (not_le.mpr hp))]
    · rw [if_neg hp]
      by_cases hn : s = 1 ∧ p = 1
      · rw [if_pos hn, if_neg (fun h => h.2.2 hn)]
      · rw [if_neg hn, if_pos (And.intro hs (And.intro (not_lt.mp hp) hn))]
        split_ifs <;> rfl
  · rw [if_pos (not_or.mp hs), if_neg (fun h => hs h.1)]

/-- bisection of `interp`, normal ordering: for a query strictly between the end knots the loop exits
    with an adjacent pair `(j, j+1)`, `j + 1 ≤ n - 1`, and `x j < q ≤ x (j+1)` -/
theorem C20_bracket_inc (n : Nat) (x : Nat → α) (r : α) (hn : 2 ≤ n) (h0 : x 0 < r) (h1 : r < x (n - 1)) :
    (bisectInc x (fin r) 0 (n - 1)).2 = (bisectInc x (fin r) 0 (n - 1)).1 + 1 ∧
    (bisectInc x (fin r) 0 (n - 1)).2 ≤ n - 1 ∧
    x (bisectInc x (fin r) 0 (n - 1)).1 < r ∧ r ≤ x (bisectInc x (fin r) 0 (n - 1)).2 := by
  obtain ⟨j, e, _, hj, hlo, hhi⟩ := bisectInc_spec x r 0 (n - 1) (by omega) h0 (le_of_lt h1)
  rw [e]
  exact ⟨rfl, hj, hlo, hhi⟩

/-- bisection of `interp`, reverse ordering: `x j > q ≥ x (j+1)` on exit -/
theorem C20_bracket_dec (n : Nat) (x : Nat → α) (r : α) (hn : 2 ≤ n) (h0 : r < x 0) (h1 : x (n - 1) < r) :
    (bisectDec x (fin r) 0 (n - 1)).2 = (bisectDec x (fin r) 0 (n - 1)).1 + 1 ∧
    (bisectDec x (fin r) 0 (n - 1)).2 ≤ n - 1 ∧
    r < x (bisectDec x (fin r) 0 (n - 1)).1 ∧ x (bisectDec x (fin r) 0 (n - 1)).2 ≤ r := by
  obtain ⟨j, e, _, hj, hlo, hhi⟩ := bisectDec_spec x r 0 (n - 1) (by omega) h0 (le_of_lt h1)
  rw [e]
  exact ⟨rfl, hj, hlo, hhi⟩

/-- linear scan of `interp_get_indices_weights`, normal ordering: for `x 0 ≤ q ≤ x (n-1)` the loop
    exits with `j + 1 < n` and `x j ≤ q ≤ x (j+1)` (and `x j < q` unless `j = 0`) -/
theorem C20_scan_inc (n : Nat) (x : Nat → α) (r : α) (hn : 2 ≤ n) (h0 : x 0 ≤ r) (h1 : r ≤ x (n - 1)) :
    scanUp n x (fin r) 0 + 1 < n ∧ x (scanUp n x (fin r) 0) ≤ r ∧ r ≤ x (scanUp n x (fin r) 0 + 1) ∧
    (scanUp n x (fin r) 0 = 0 ∨ x (scanUp n x (fin r) 0) < r) := by
  obtain ⟨_, b, c, d⟩ := scanUp_spec n x r 0 (by omega) (Or.inl rfl) h1
  refine ⟨by omega, ?_, d, c⟩
  rcases c with c | c
  · rw [c]; exact h0
  · exact le_of_lt c

/-- linear scan, reverse ordering: for `x 0 ≥ q ≥ x (n-1)` the loop exits with `x j ≥ q ≥ x (j+1)` -/
theorem C20_scan_dec (n : Nat) (x : Nat → α) (r : α) (hn : 2 ≤ n) (h0 : r ≤ x 0) (h1 : x (n - 1) ≤ r) :
    scanDown x (fin r) (n - 2) + 1 < n ∧ x (scanDown x (fin r) (n - 2) + 1) ≤ r ∧
    r ≤ x (scanDown x (fin r) (n - 2)) := by
  have e : n - 2 + 1 = n - 1 := by omega
  obtain ⟨a, b, c⟩ := scanDown_spec x r h0 (n - 2) (by rw [e]; exact h1)
  exact ⟨by omega, b, c⟩

/-- weights: for a query inside the knot range `interp_get_indices_weights` returns a valid entry whose
    index brackets the query, and the weight `w` of the lower-index point satisfies `0 ≤ w ≤ 1`; the
    other weight is `1 - w`, so the two sum to one -/
theorem C20_weights {n : Nat} {x : Nat → α} (hx : Knots n x) (hn : 2 ≤ n) (policy : Nat) {r : α}
    (hr : Inside n x r) :
    Bracketed n x r (indexWeight n x (decide (x 1 > x 0)) policy (fin r)) ∧
    ∃ a : α, (indexWeight n x (decide (x 1 > x 0)) policy (fin r)).weight0 = fin a ∧ 0 ≤ a ∧ a ≤ 1 ∧
      fin (1 : α) - (indexWeight n x (decide (x 1 > x 0)) policy (fin r)).weight0 = fin (1 - a) ∧
      a + (1 - a) = 1 := by
  rw [decide_gt_eq]
  have h := indexWeight_inrange (hx.dir hn) hn policy hr
  exact ⟨h, h.weight_unit⟩

/-- the same for the two weights `(x(jmax) - q)/(x(jmax) - x(jmin))`, `(q - x(jmin))/(x(jmax) - x(jmin))`
    of the 1-D routine on a bracketing pair (either direction) -/
theorem C20_weights1 {xa xb r : α} (h : (xa ≤ r ∧ r ≤ xb ∧ xa < xb) ∨ (xb ≤ r ∧ r ≤ xa ∧ xb < xa)) :
    0 ≤ (xb - r) / (xb - xa) ∧ (xb - r) / (xb - xa) ≤ 1 ∧ 0 ≤ (r - xa) / (xb - xa) ∧ (r - xa) / (xb - xa) ≤ 1 ∧
    (xb - r) / (xb - xa) + (r - xa) / (xb - xa) = 1 := by
  obtain ⟨h0, h1⟩ := weight_mem_unit h
  have hne : xb - xa ≠ 0 := sub_ne_zero.mpr (h.elim (fun c => c.2.2.ne') fun c => c.2.2.ne)
  -- the second weight is `1 -` the first
  have hs : (xb - r) / (xb - xa) + (r - xa) / (xb - xa) = 1 := by
    rw [← add_div, sub_add_sub_cancel, div_self hne]
  rw [← eq_sub_iff_add_eq'] at hs
  exact ⟨h0, h1, hs ▸ sub_nonneg.mpr h1, hs ▸ sub_le_self 1 h0, by rw [hs]; exact add_sub_cancel _ _⟩

/-- `interp`, linear scheme, any extrapolation policy, query anywhere in the closed knot range (end
    knots included): the result is finite and is the value of the piecewise-linear interpolant, i.e.
    `y j + (q - x j)·(y (j+1) - y j)/(x (j+1) - x j)` for a segment `j` containing `q`.
    Both forms of the formula (`a / d`, and `a * (1 / d)` for array slices and active data) are covered. -/
theorem C20_interp1_spec (recip : Bool) {n : Nat} {x : Nat → α} (y : Nat → α) (hx : Knots n x) (hn : 2 ≤ n)
    (policy : Nat) (ev : Ext α) {r : α} (hr : Inside n x r) :
    ∃ v, interp1Elem recip n x y ADEPT_INTERPOLATE_LINEAR policy ev (fin r) = fin v ∧ IsPWL n x y r v := by
  have hd := hx.dir hn
  rcases select1_inrange hd hn policy hr with ⟨k, hk, rfl, hs⟩ | ⟨a, ha, hb, hs⟩
  · rw [interp1Elem, hs]
    exact ⟨y k, rfl, isPWL_knot x y hn hk fun _ => hd.ne⟩
  · rw [interp1Elem, hs]
    exact ⟨_, eval1_pair_linear recip x y _ ev r a (a + 1) (hd.ne ha), a, ha, hb, rfl⟩

/-- the interpolant is single valued, so `C20_interp1_spec` determines the result: whichever segment
    containing `q` is used, the value is the same -/
theorem C20_interp1_unique {n : Nat} {x y : Nat → α} (hx : Knots n x) (hn : 2 ≤ n) {r v v' : α}
    (h : IsPWL n x y r v) (h' : IsPWL n x y r v') : v = v' :=
  IsPWL.unique (hx.dir hn) h h'

/-- at every knot `x k` (the two end knots included, under every policy, the constant policy too) the
    result is the data value `y k` itself -/
theorem C20_interp1_knots (recip : Bool) {n : Nat} {x : Nat → α} (y : Nat → α) (hx : Knots n x) (hn : 2 ≤ n)
    (policy : Nat) (ev : Ext α) {k : Nat} (hk : k < n) :
    interp1Elem recip n x y ADEPT_INTERPOLATE_LINEAR policy ev (fin (x k)) = fin (y k) := by
  obtain ⟨v, hv, hp⟩ := C20_interp1_spec recip y hx hn policy ev (hx.inside_knot hk)
  rw [hv, IsPWL.knot (hx.dir hn) hk hp]

/-! ## extrapolation (both schemes where applicable; `OffFirst`/`OffLast` include `±inf`) -/

/-- linear extrapolation: a finite query beyond the end where knot 0 lies gets the value of the straight
    line through the first two data points; beyond the other end, through the last two -/
theorem C20_extrap_linear (recip : Bool) {n : Nat} {x : Nat → α} (y : Nat → α) (hx : Knots n x) (hn : 2 ≤ n)
    (ev : Ext α) (r : α) :
    (OffFirst (decide (x 0 < x 1)) (x 0) (fin r) →
      interp1Elem recip n x y ADEPT_INTERPOLATE_LINEAR 1 ev (fin r) = fin (lineThrough (x 0) (x 1) (y 0) (y 1) r)) ∧
    (OffLast (decide (x 0 < x 1)) (x (n - 1)) (fin r) →
      interp1Elem recip n x y ADEPT_INTERPOLATE_LINEAR 1 ev (fin r)
        = fin (lineThrough (x (n - 2)) (x (n - 1)) (y (n - 2)) (y (n - 1)) r)) := by
  have hd := hx.dir hn
  constructor
  · intro h
    rw [interp1Elem, select1_offFirst n x _ 1 _ h]
    exact eval1_pair_linear recip x y _ ev r 0 1 (hd.ne (by omega : 0 + 1 < n))
  · intro h
    rw [interp1Elem, select1_offLast hd hn 1 _ h]
    have e : n - 2 + 1 = n - 1 := by omega
    have := hd.ne (by omega : (n - 2) + 1 < n)
    rw [e] at this
    exact eval1_pair_linear recip x y _ ev r (n - 2) (n - 1) this

/-- clamp policy: beyond an end (finite or infinite query) the result is the end data value -/
theorem C20_extrap_clamp (recip : Bool) {n : Nat} {x : Nat → α} (y : Nat → α) (hx : Knots n x) (hn : 2 ≤ n)
    (scheme : Nat) (ev q : Ext α) :
    (OffFirst (decide (x 0 < x 1)) (x 0) q → interp1Elem recip n x y scheme 2 ev q = fin (y 0)) ∧
    (OffLast (decide (x 0 < x 1)) (x (n - 1)) q → interp1Elem recip n x y scheme 2 ev q = fin (y (n - 1))) := by
  constructor
  · intro h
    rw [interp1Elem, select1_offFirst n x _ 2 _ h]; rfl
  · intro h
    rw [interp1Elem, select1_offLast (hx.dir hn) hn 2 _ h]; rfl

/-- constant policy: beyond an end (finite or infinite query) the result is the given value
    (NaN when the caller gave none: the driver passes `Ext.nan` for the default argument) -/
theorem C20_extrap_constant (recip : Bool) {n : Nat} {x : Nat → α} (y : Nat → α) (hx : Knots n x) (hn : 2 ≤ n)
    (scheme : Nat) (ev q : Ext α)
    (h : OffFirst (decide (x 0 < x 1)) (x 0) q ∨ OffLast (decide (x 0 < x 1)) (x (n - 1)) q) :
    interp1Elem recip n x y scheme 3 ev q = ev := by
  rcases h with h | h
  · rw [interp1Elem, select1_offFirst n x _ 3 _ h]; rfl
  · rw [interp1Elem, select1_offLast (hx.dir hn) hn 3 _ h]; rfl

/-- a NaN query under the linear scheme gives NaN: both end tests are false (every comparison with NaN is), so
    the formula is evaluated, on whatever pair the bisection returns, and propagates the NaN -/
theorem C20_nan_query_linear (recip : Bool) (n : Nat) (x y : Nat → α) (policy : Nat) (ev : Ext α) :
    interp1Elem recip n x y ADEPT_INTERPOLATE_LINEAR policy ev nan = nan := by
  have h : ∀ a b : Nat, linFormula recip x y (nan : Ext α) a b = nan := by
    intro a b
    cases recip <;> rfl
  rw [interp1Elem]
  -- `select1 … nan` reduces to `.pair _ _`: the tests `ble nan _`, `bge nan _` evaluate to `false`
  cases decide (x 0 < x 1)
  · show eval1 _ _ _ _ _ _ _ (.pair _ _) = _
    rw [eval1_pair, if_pos rfl, h]
  · show eval1 _ _ _ _ _ _ _ (.pair _ _) = _
    rw [eval1_pair, if_pos rfl, h]

/-- an infinite query under linear extrapolation (`interp`): the formula is evaluated on the end segment
    and its result is not a finite number (`±inf` or NaN, by the IEEE rules for `inf·y`, `inf - inf`) -/
theorem C20_extrap_linear_inf (recip : Bool) {n : Nat} {x : Nat → α} (y : Nat → α) (hx : Knots n x) (hn : 2 ≤ n)
    (ev q : Ext α) (hq : q = pinf ∨ q = ninf) :
    (interp1Elem recip n x y ADEPT_INTERPOLATE_LINEAR 1 ev q).isFin = false := by
  have hd := hx.dir hn
  have e : n - 2 + 1 = n - 1 := by omega
  have hl := hd.ne (by omega : (n - 2) + 1 < n)
  rw [e] at hl
  have h0 := hd.ne (by omega : 0 + 1 < n)
  have hoff : OffFirst (decide (x 0 < x 1)) (x 0) q ∨ OffLast (decide (x 0 < x 1)) (x (n - 1)) q := by
    rcases hq with rfl | rfl <;> cases hdec : decide (x 0 < x 1) <;> simp [OffFirst, OffLast]
  rcases hoff with h | h
  · rw [interp1Elem, select1_offFirst n x _ 1 _ h]
    simpa [offSel, eval1, ADEPT_INTERPOLATE_LINEAR] using linFormula_inf_nonfin recip x y 0 1 h0 q hq
  · rw [interp1Elem, select1_offLast hd hn 1 _ h]
    simpa [offSel, eval1, ADEPT_INTERPOLATE_LINEAR] using linFormula_inf_nonfin recip x y (n - 2) (n - 1) hl q hq

/-- `interp`, nearest-neighbour scheme (policy clamp, the default, for every finite query; policy
    constant for queries in the closed knot range): the result is the data value at a knot `k` that is
    nearest to the query, and among equally near knots `k` is the one with the lowest index (the tie
    rule of the code: `xii-x(jmin) > x(jmax)-xii` picks `jmax`, otherwise `jmin`). -/
theorem C20_nearest_spec (recip : Bool) {n : Nat} {x : Nat → α} (y : Nat → α) (hx : Knots n x) (hn : 2 ≤ n)
    {policy : Nat} (ev : Ext α) {r : α} (hp : policy = 2 ∨ (policy = 3 ∧ Inside n x r)) :
    ∃ k, interp1Elem recip n x y ADEPT_INTERPOLATE_NEAREST policy ev (fin r) = fin (y k) ∧
      IsNearestLow n x r k := by
  have hd := hx.dir hn
  rw [interp1Elem]
  have inside : Inside n x r → ∃ k, eval1 recip x y (decide (x 0 < x 1)) ADEPT_INTERPOLATE_NEAREST ev (fin r)
      (select1 n x (decide (x 0 < x 1)) policy (fin r)) = fin (y k) ∧ IsNearestLow n x r k := by
    intro h
    rcases select1_inrange hd hn policy h with ⟨k, hk, rfl, hs⟩ | ⟨a, ha, hb, hs⟩
    · rw [hs]
      exact ⟨k, rfl, nearest_knot hd hk⟩
    · rw [hs]
      exact ⟨_, rfl, nearestPick_nearest hd ha hb⟩
  rcases hp with rfl | ⟨_, h⟩
  · rcases inside_or_off (decide (x 0 < x 1)) n x r with h | h | h
    · exact inside h
    · rw [select1_offFirst n x _ 2 _ h]
      exact ⟨0, rfl, nearest_first hd hn h⟩
    · rw [select1_offLast hd hn 2 _ h]
      exact ⟨n - 1, rfl, nearest_last hd hn h⟩
  · exact inside h

/-! ## 2-D and 3-D: tensor product of the 1-D operators -/

/-- `interp2d`, linear scheme, both coordinates inside their knot ranges: the result is obtained by
    interpolating every column `M[·][j]` piecewise-linearly in `x` at `qx` (giving `g j`) and then
    interpolating `g` piecewise-linearly in `y` at `qy` — the textbook bilinear interpolant.
    The four direction combinations are covered. -/
theorem C20_interp2_spec [HasRound α] {nx ny : Nat} {x y : Nat → α} (m : Nat → Nat → α)
    (hx : Knots nx x) (hy : Knots ny y) (hnx : 2 ≤ nx) (hny : 2 ≤ ny) (policy : Nat) (ev : Ext α) {rx ry : α}
    (hrx : Inside nx x rx) (hry : Inside ny y ry) :
    ∃ (v : α) (g : Nat → α),
      interp2Elem nx ny x y m ADEPT_INTERPOLATE_LINEAR policy ev (fin rx) (fin ry) = fin v ∧
      (∀ j, IsPWL nx x (fun i => m i j) rx (g j)) ∧ IsPWL ny y g ry v := by
  have bx := hx.bracketed hnx policy hrx
  have by' := hy.bracketed hny policy hry
  exact ⟨_, fun j => op1 _ fun i => m i j, eval2_tensor m ev bx.valid by'.valid bx.weight by'.weight,
    fun j => bx.op1_isPWL _, by'.op1_isPWL _⟩

/-- at a grid point `(x a, y b)` `interp2d` returns `M[a][b]` -/
theorem C20_interp2_knots [HasRound α] {nx ny : Nat} {x y : Nat → α} (m : Nat → Nat → α)
    (hx : Knots nx x) (hy : Knots ny y) (hnx : 2 ≤ nx) (hny : 2 ≤ ny) (policy : Nat) (ev : Ext α)
    {a b : Nat} (ha : a < nx) (hb : b < ny) :
    interp2Elem nx ny x y m ADEPT_INTERPOLATE_LINEAR policy ev (fin (x a)) (fin (y b)) = fin (m a b) := by
  obtain ⟨v, g, hv, hg, hgv⟩ := C20_interp2_spec m hx hy hnx hny policy ev (hx.inside_knot ha) (hy.inside_knot hb)
  have e1 : ∀ j, g j = m a j := fun j => IsPWL.knot (hx.dir hnx) ha (hg j)
  have e2 : v = g b := IsPWL.knot (hy.dir hny) hb hgv
  rw [hv, e2, e1]

/-- `interp3d`, linear scheme, all coordinates inside: interpolate in `z`, then in `y`, then in `x`
    (the textbook trilinear interpolant); the eight direction combinations are covered -/
theorem C20_interp3_spec [HasRound α] {nx ny nz : Nat} {x y z : Nat → α} (m : Nat → Nat → Nat → α)
    (hx : Knots nx x) (hy : Knots ny y) (hz : Knots nz z) (hnx : 2 ≤ nx) (hny : 2 ≤ ny) (hnz : 2 ≤ nz)
    (policy : Nat) (ev : Ext α) {rx ry rz : α}
    (hrx : Inside nx x rx) (hry : Inside ny y ry) (hrz : Inside nz z rz) :
    ∃ (v : α) (g : Nat → Nat → α) (h : Nat → α),
      interp3Elem nx ny nz x y z m ADEPT_INTERPOLATE_LINEAR policy ev (fin rx) (fin ry) (fin rz) = fin v ∧
      (∀ i j, IsPWL nz z (fun k => m i j k) rz (g i j)) ∧ (∀ i, IsPWL ny y (g i) ry (h i)) ∧ IsPWL nx x h rx v := by
  have bx := hx.bracketed hnx policy hrx
  have by' := hy.bracketed hny policy hry
  have bz := hz.bracketed hnz policy hrz
  exact ⟨_, fun i j => op1 _ fun k => m i j k, fun i => op1 _ fun j => op1 _ fun k => m i j k,
    eval3_tensor m ev bx.valid by'.valid bz.valid bx.weight by'.weight bz.weight,
    fun i j => bz.op1_isPWL _, fun i => by'.op1_isPWL _, bx.op1_isPWL _⟩

/-- at a grid point `interp3d` returns `M[a][b][c]` -/
theorem C20_interp3_knots [HasRound α] {nx ny nz : Nat} {x y z : Nat → α} (m : Nat → Nat → Nat → α)
    (hx : Knots nx x) (hy : Knots ny y) (hz : Knots nz z) (hnx : 2 ≤ nx) (hny : 2 ≤ ny) (hnz : 2 ≤ nz)
    (policy : Nat) (ev : Ext α) {a b c : Nat} (ha : a < nx) (hb : b < ny) (hc : c < nz) :
    interp3Elem nx ny nz x y z m ADEPT_INTERPOLATE_LINEAR policy ev (fin (x a)) (fin (y b)) (fin (z c))
      = fin (m a b c) := by
  obtain ⟨v, g, h, hv, hg, hh, hhv⟩ := C20_interp3_spec m hx hy hz hnx hny hnz policy ev
    (hx.inside_knot ha) (hy.inside_knot hb) (hz.inside_knot hc)
  have e1 : ∀ i j, g i j = m i j c := fun i j => IsPWL.knot (hz.dir hnz) hc (hg i j)
  have e2 : ∀ i, h i = g i b := fun i => IsPWL.knot (hy.dir hny) hb (hh i)
  have e3 : v = h a := IsPWL.knot (hx.dir hnx) ha hhv
  rw [hv, e3, e2, e1]

/-- extrapolation in `interp_get_indices_weights` (shared by `interp2d` and `interp3d`; `±inf` included):
    beyond the end where knot 0 lies — constant policy: the entry is invalid; clamp: index 0 with
    weight 1 (the end value); linear, finite query: index 0 with the weight of the end segment's line.
    Beyond the other end: invalid / index `n-2` with weight 0 / the last segment's line. -/
theorem C20_index_weight_extrap {n : Nat} {x : Nat → α} (hx : Knots n x) (hn : 2 ≤ n) (q : Ext α) :
    (OffFirst (decide (x 1 > x 0)) (x 0) q →
      (indexWeight n x (decide (x 1 > x 0)) 3 q).valid = false ∧
      indexWeight n x (decide (x 1 > x 0)) 2 q = { ind0 := 0, weight0 := fin 1 } ∧
      ∀ r, q = fin r → indexWeight n x (decide (x 1 > x 0)) 1 q =
        { ind0 := 0, weight0 := fin ((x 1 - r) / (x 1 - x 0)) }) ∧
    (OffLast (decide (x 1 > x 0)) (x (n - 1)) q →
      (indexWeight n x (decide (x 1 > x 0)) 3 q).valid = false ∧
      indexWeight n x (decide (x 1 > x 0)) 2 q = { ind0 := n - 2, weight0 := fin 0 } ∧
      ∀ r, q = fin r → indexWeight n x (decide (x 1 > x 0)) 1 q =
        { ind0 := n - 2, weight0 := fin ((x (n - 1) - r) / (x (n - 1) - x (n - 2))) }) := by
  have hd := hx.dir hn
  rw [decide_gt_eq]
  constructor
  · intro h
    refine ⟨?_, ?_, ?_⟩
    · rw [indexWeight_offFirst n x _ 3 q h]; exact offEnd_constant x q 0 1
    · rw [indexWeight_offFirst n x _ 2 q h]; exact offEnd_clamp x q 0 1
    · rintro r rfl
      rw [indexWeight_offFirst n x _ 1 _ h]
      exact offEnd_linear x r 0 1 (hd.ne (by omega : 0 + 1 < n))
  · intro h
    have e : n - 2 + 1 = n - 1 := by omega
    refine ⟨?_, ?_, ?_⟩
    · rw [indexWeight_offLast hd hn 3 q h]; exact offEnd_constant x q (n - 2) 0
    · rw [indexWeight_offLast hd hn 2 q h]; exact offEnd_clamp x q (n - 2) 0
    · rintro r rfl
      rw [indexWeight_offLast hd hn 1 _ h, offEnd_linear x r (n - 2) 0 (hd.ne (by omega : (n - 2) + 1 < n)), e]

/-- the final loops: with valid entries and finite weights the result is the tensor product of the 1-D
    operators `f ↦ w·f(i) + (1-w)·f(i+1)`; if any entry is invalid (constant policy, a coordinate
    outside) the result is the extrapolation value -/
theorem C20_interp2_tensor (m : Nat → Nat → α) (ev : Ext α) (wx wy : IW α) :
    (wx.valid = true → wy.valid = true → ∀ a b, wx.weight0 = fin a → wy.weight0 = fin b →
      eval2 m ev wx wy = fin (op1 wy (fun j => op1 wx (fun i => m i j)))) ∧
    (wx.valid = false ∨ wy.valid = false → eval2 m ev wx wy = ev) :=
  ⟨fun hx hy _ _ ha hb => eval2_tensor m ev hx hy ha hb, by rintro (h | h) <;> simp [eval2, h]⟩

theorem C20_interp3_tensor (m : Nat → Nat → Nat → α) (ev : Ext α) (wx wy wz : IW α) :
    (wx.valid = true → wy.valid = true → wz.valid = true → ∀ a b c, wx.weight0 = fin a → wy.weight0 = fin b →
      wz.weight0 = fin c →
      eval3 m ev wx wy wz = fin (op1 wx (fun i => op1 wy (fun j => op1 wz (fun k => m i j k))))) ∧
    (wx.valid = false ∨ wy.valid = false ∨ wz.valid = false → eval3 m ev wx wy wz = ev) :=
  ⟨fun hx hy hz _ _ _ ha hb hc => eval3_tensor m ev hx hy hz ha hb hc, by rintro (h | h | h) <;> simp [eval3, h]⟩

/-- `interp2d`, nearest-neighbour scheme, both coordinates inside (over `ℚ`, where C `round()` is
    defined): the result is `M[kx][ky]` with `kx`, `ky` nearest knots in their dimensions, ties to the
    lower index — the same rule as the explicit comparison of the 1-D routine (`round(0.5) = 1`). -/
theorem C20_nearest2_spec {nx ny : Nat} {x y : Nat → ℚ} (m : Nat → Nat → ℚ)
    (hx : Knots nx x) (hy : Knots ny y) (hnx : 2 ≤ nx) (hny : 2 ≤ ny) (policy : Nat) (ev : Ext ℚ) {rx ry : ℚ}
    (hrx : Inside nx x rx) (hry : Inside ny y ry) :
    ∃ kx ky, interp2Elem nx ny x y m ADEPT_INTERPOLATE_NEAREST policy ev (fin rx) (fin ry) = fin (m kx ky) ∧
      IsNearestLow nx x rx kx ∧ IsNearestLow ny y ry ky := by
  obtain ⟨kx, hkx, vx, ⟨a, ha⟩, ox⟩ := indexWeightR_nearest (hx.dir hnx) hnx policy hrx
  obtain ⟨ky, hky, vy, ⟨b, hb⟩, oy⟩ := indexWeightR_nearest (hy.dir hny) hny policy hry
  refine ⟨kx, ky, ?_, hkx, hky⟩
  rw [interp2Elem, decide_gt_eq, decide_gt_eq, eval2_tensor m ev vx vy ha hb, oy, ox]

/-- the same for `interp3d` -/
theorem C20_nearest3_spec {nx ny nz : Nat} {x y z : Nat → ℚ} (m : Nat → Nat → Nat → ℚ)
    (hx : Knots nx x) (hy : Knots ny y) (hz : Knots nz z) (hnx : 2 ≤ nx) (hny : 2 ≤ ny) (hnz : 2 ≤ nz)
    (policy : Nat) (ev : Ext ℚ) {rx ry rz : ℚ}
    (hrx : Inside nx x rx) (hry : Inside ny y ry) (hrz : Inside nz z rz) :
    ∃ kx ky kz,
      interp3Elem nx ny nz x y z m ADEPT_INTERPOLATE_NEAREST policy ev (fin rx) (fin ry) (fin rz) = fin (m kx ky kz) ∧
      IsNearestLow nx x rx kx ∧ IsNearestLow ny y ry ky ∧ IsNearestLow nz z rz kz := by
  obtain ⟨kx, hkx, vx, ⟨a, ha⟩, ox⟩ := indexWeightR_nearest (hx.dir hnx) hnx policy hrx
  obtain ⟨ky, hky, vy, ⟨b, hb⟩, oy⟩ := indexWeightR_nearest (hy.dir hny) hny policy hry
  obtain ⟨kz, hkz, vz, ⟨c, hc⟩, oz⟩ := indexWeightR_nearest (hz.dir hnz) hnz policy hrz
  refine ⟨kx, ky, kz, ?_, hkx, hky, hkz⟩
  rw [interp3Elem, decide_gt_eq, decide_gt_eq, decide_gt_eq, eval3_tensor m ev vx vy vz ha hb hc, ox]
  simp only [oy, oz]

/-- `size_mismatch`: `interp` when the knot count differs from the first extent of the data or is zero;
    `interp2d` / `interp3d` when a knot count differs from the corresponding extent, is below 2, or the
    query vectors differ in length — in each case before the option word is looked at -/
theorem C20_sizes [HasRound α] (e : Bool) (xs ys zs : Array α) (dims : List Nat) (data : Array α)
    (xi yi zi : List (Ext α)) (o : Nat) (ev : Ext α) :
    (xs.size ≠ dims.headD 0 ∨ xs.size = 0 → interp1 e xs dims data xi o ev = .error .sizeMismatch) ∧
    (xs.size ≠ dims.getD 0 0 ∨ ys.size ≠ dims.getD 1 0 ∨ xs.size < 2 ∨ ys.size < 2 ∨ xi.length ≠ yi.length →
      interp2 xs ys dims data xi yi o ev = .error .sizeMismatch) ∧
    (xs.size ≠ dims.getD 0 0 ∨ ys.size ≠ dims.getD 1 0 ∨ zs.size ≠ dims.getD 2 0 ∨
      xs.size < 2 ∨ ys.size < 2 ∨ zs.size < 2 ∨ xi.length ≠ yi.length ∨ xi.length ≠ zi.length →
      interp3 xs ys zs dims data xi yi zi o ev = .error .sizeMismatch) := by
  -- each routine is a chain of guards `if c then size_mismatch else …`: if no guard fires, the hypothesis is refuted
  refine ⟨fun h => ?_, fun h => ?_, fun h => ?_⟩
  · unfold interp1
    simp only [ite_eq_left_iff]
    intro n1 n2
    exact (h.elim n1 n2).elim
  · unfold interp2
    simp only [ite_eq_left_iff]
    intro n1 n2 n3 n4
    rcases h with h | h | h | h | h
    exacts [(n1 h).elim, (n2 h).elim, (n3 (.inl h)).elim, (n3 (.inr h)).elim, (n4 h).elim]
  · unfold interp3
    simp only [ite_eq_left_iff]
    intro n1 n2 n3 n4 n5
    rcases h with h | h | h | h | h | h | h | h
    exacts [(n1 h).elim, (n2 h).elim, (n3 h).elim, (n4 (.inl h)).elim, (n4 (.inr (.inl h))).elim,
      (n4 (.inr (.inr h))).elim, (n5 (.inl h)).elim, (n5 (.inr h)).elim]

/-- a single knot: the one slice is copied to every output, whatever the query and the option word -/
theorem C20_single_knot (e : Bool) (xs : Array α) (ydims : List Nat) (data : Array α) (xi : List (Ext α))
    (o : Nat) (ev : Ext α) (h : xs.size = ydims.headD 0) (h1 : xs.size = 1) :
    (interp1 e xs ydims data xi o ev).map Result.vals = .ok
      (xi.flatMap fun _ => (List.range (prod (ydims.drop 1))).map fun k => fin (data.getD k 0)) := by
  unfold interp1
  rw [if_neg (not_not.mpr h), if_neg (by omega), if_pos h1]
  simp only [Except.map, Nat.zero_mul, Nat.zero_add]

/-- consistent sizes (at least two knots) and an unsupported option word: `array_exception` -/
theorem C20_bad_options [HasRound α] (e : Bool) (xs ys : Array α) (dims : List Nat) (data : Array α)
    (xi yi : List (Ext α)) (o : Nat) (ev : Ext α) (ho : extractInterpExtrap o = .error .arrayException) :
    (xs.size = dims.headD 0 → 2 ≤ xs.size → interp1 e xs dims data xi o ev = .error .arrayException) ∧
    (xs.size = dims.getD 0 0 → ys.size = dims.getD 1 0 → 2 ≤ xs.size → 2 ≤ ys.size → xi.length = yi.length →
      interp2 xs ys dims data xi yi o ev = .error .arrayException) := by
  refine ⟨fun h h2 => ?_, fun h1 h2 h3 h4 h5 => ?_⟩
  · unfold interp1
    rw [if_neg (not_not.mpr h), if_neg (by omega), if_neg (by omega), ho]
  · unfold interp2
    rw [if_neg (not_not.mpr h1), if_neg (not_not.mpr h2), if_neg (by omega), if_neg (not_not.mpr h5), ho]

/-- consistent sizes and a supported option word: the result of `interp` lists, query by query, for
    every element `k` of a slice (trailing dimensions flattened row-major) the element
    `interp1Elem` computed from the knots and the `k`-th data column: trailing dimensions are a `map`.
    The direction is decided by `x(0) < x(1)`. -/
theorem C20_array1 (e : Bool) (xs : Array α) (ydims : List Nat) (data : Array α) (xi : List (Ext α))
    (o : Nat) (ev : Ext α) (h : xs.size = ydims.headD 0) (h2 : 2 ≤ xs.size) {s p : Nat}
    (ho : extractInterpExtrap o = .ok (s, p)) :
    (interp1 e xs ydims data xi o ev).map Result.vals = .ok
      (xi.flatMap fun q => (List.range (prod (ydims.drop 1))).map fun k =>
        interp1Elem e xs.size (fun j => xs.getD j 0) (fun j => data.getD (j * prod (ydims.drop 1) + k) 0) s p ev q) := by
  unfold interp1
  rw [if_neg (not_not.mpr h), if_neg (by omega), if_neg (by omega), ho]
  -- what is left lists `interp1Elem` unfolded, element by element
  rfl

/-- the same for `interp2d` (queries are the pairs `(xi[i], yi[i])`) -/
theorem C20_array2 [HasRound α] (xs ys : Array α) (mdims : List Nat) (data : Array α)
    (xi yi : List (Ext α)) (o : Nat) (ev : Ext α)
    (h1 : xs.size = mdims.getD 0 0) (h2 : ys.size = mdims.getD 1 0) (h3 : 2 ≤ xs.size) (h4 : 2 ≤ ys.size)
    (h5 : xi.length = yi.length) {s p : Nat} (ho : extractInterpExtrap o = .ok (s, p)) :
    (interp2 xs ys mdims data xi yi o ev).map Result.vals = .ok
      ((xi.zip yi).flatMap fun q => (List.range (prod (mdims.drop 2))).map fun k =>
        interp2Elem xs.size ys.size (fun j => xs.getD j 0) (fun j => ys.getD j 0)
          (fun i j => data.getD ((i * ys.size + j) * prod (mdims.drop 2) + k) 0) s p ev q.1 q.2) := by
  unfold interp2
  rw [if_neg (not_not.mpr h1), if_neg (not_not.mpr h2), if_neg (by omega), if_neg (not_not.mpr h5), ho]
  rfl

/-- and for `interp3d` -/
theorem C20_array3 [HasRound α] (xs ys zs : Array α) (mdims : List Nat) (data : Array α)
    (xi yi zi : List (Ext α)) (o : Nat) (ev : Ext α)
    (h1 : xs.size = mdims.getD 0 0) (h2 : ys.size = mdims.getD 1 0) (h2' : zs.size = mdims.getD 2 0)
    (h3 : 2 ≤ xs.size) (h4 : 2 ≤ ys.size) (h4' : 2 ≤ zs.size)
    (h5 : xi.length = yi.length) (h5' : xi.length = zi.length) {s p : Nat}
    (ho : extractInterpExtrap o = .ok (s, p)) :
    (interp3 xs ys zs mdims data xi yi zi o ev).map Result.vals = .ok
      ((xi.zip (yi.zip zi)).flatMap fun q => (List.range (prod (mdims.drop 3))).map fun l =>
        interp3Elem xs.size ys.size zs.size (fun j => xs.getD j 0) (fun j => ys.getD j 0) (fun j => zs.getD j 0)
          (fun i j k => data.getD (((i * ys.size + j) * zs.size + k) * prod (mdims.drop 3) + l) 0)
          s p ev q.1 q.2.1 q.2.2) := by
  unfold interp3
  rw [if_neg (not_not.mpr h1), if_neg (not_not.mpr h2), if_neg (not_not.mpr h2'), if_neg (by omega),
    if_neg (by omega), ho]
  rfl

/-! ## active data: the weights are the coefficients of the data -/

/-- For a finite query whose element is not the extrapolation constant, the value of an output element
    is the linear form `Σ w·y[j]` over the weight list the model reports (the list the correspondence check
    compares with the Jacobian computed by the Adept stack), and that list does not depend on the data.
    Hence the derivative of the output with respect to `y[j]` is the weight attached to `j`; for the
    extrapolation constant the list is empty and the derivative zero. -/
theorem C20_active_weights (recip : Bool) {n : Nat} {x : Nat → α} (y : Nat → α) (hx : Knots n x) (hn : 2 ≤ n)
    (scheme policy : Nat) (ev : Ext α) (r : α) :
    (select1 n x (decide (x 0 < x 1)) policy (fin r) ≠ .extrap →
      interp1Elem recip n x y scheme policy ev (fin r) = dotW (interp1Weights n x scheme policy (fin r)) y) ∧
    (select1 n x (decide (x 0 < x 1)) policy (fin r) = .extrap →
      interp1Elem recip n x y scheme policy ev (fin r) = ev ∧ interp1Weights n x scheme policy (fin r) = []) := by
  have hd := hx.dir hn
  rw [interp1Elem, interp1Weights]
  have one : ∀ j, dotW [(j, fin 1)] y = fin (y j) := fun j => by
    rw [dotW_cons, dotW_nil, mul_fin, add_fin, one_mul, add_zero]
  cases hs : select1 n x (decide (x 0 < x 1)) policy (fin r) with
  | extrap => exact ⟨fun h => absurd rfl h, fun _ => ⟨rfl, rfl⟩⟩
  | copy j => exact ⟨fun _ => (one j).symm, fun h => nomatch h⟩
  | pair a b =>
    refine ⟨fun _ => ?_, fun h => nomatch h⟩
    have hne := select1_pair_ne hd hn policy r hs
    by_cases hl : scheme = ADEPT_INTERPOLATE_LINEAR
    · simp only [eval1, weights1, hl, if_true, dotW_cons, dotW_nil, sub_fin, div_fin _ _ (sub_ne_zero.mpr hne), mul_fin,
        add_fin, linFormula_fin recip x y r a b hne, lineThrough_eq_weights hne, add_zero]
    · rw [eval1_pair, if_neg hl]
      show _ = dotW (if scheme = ADEPT_INTERPOLATE_LINEAR then _ else [(_, fin 1)]) y
      rw [if_neg hl, one]

/-- the same for `interp2d` / `interp3d`: with valid entries and finite weights the value is the linear
    form over the four / eight weights the model reports (products of the 1-D weights); with an invalid
    entry the value is the extrapolation constant and the weight list is empty -/
theorem C20_active_weights2 (m : Nat → Nat → α) (ev : Ext α) (wx wy : IW α) :
    (wx.valid = true → wy.valid = true → ∀ a b, wx.weight0 = fin a → wy.weight0 = fin b →
      eval2 m ev wx wy = dotW2 (weights2 wx wy) m) ∧
    (wx.valid = false ∨ wy.valid = false → eval2 m ev wx wy = ev ∧ weights2 wx wy = []) := by
  refine ⟨fun hx hy a b ha hb => ?_, fun h => ⟨(C20_interp2_tensor m ev wx wy).2 h, ?_⟩⟩
  · simp only [eval2, weights2, dotW2_cons, dotW2_nil, hx, hy, ha, hb, Bool.and_self, if_true, sub_fin, mul_fin, add_fin]
    congr 1
    ring
  · rcases h with h | h <;> simp [weights2, h]

theorem C20_active_weights3 (m : Nat → Nat → Nat → α) (ev : Ext α) (wx wy wz : IW α) :
    (wx.valid = true → wy.valid = true → wz.valid = true → ∀ a b c, wx.weight0 = fin a → wy.weight0 = fin b →
      wz.weight0 = fin c → eval3 m ev wx wy wz = dotW3 (weights3 wx wy wz) m) ∧
    (wx.valid = false ∨ wy.valid = false ∨ wz.valid = false →
      eval3 m ev wx wy wz = ev ∧ weights3 wx wy wz = []) := by
  refine ⟨fun hx hy hz a b c ha hb hc => ?_, fun h => ⟨(C20_interp3_tensor m ev wx wy wz).2 h, ?_⟩⟩
  · simp only [eval3, weights3, dotW3_cons, dotW3_nil, hx, hy, hz, ha, hb, hc, Bool.and_self, if_true, sub_fin, mul_fin,
      add_fin]
    congr 1
    ring
  · rcases h with h | h | h <;> simp [weights3, h]

/-- the hypotheses are satisfiable: `x j = j` is an increasing knot vector of any length, `x j = -j` a
    decreasing one, and every knot is inside the range -/
example : Knots 5 (fun j => (j : ℚ)) ∧ Knots 5 (fun j => -(j : ℚ)) ∧ Inside 5 (fun j => (j : ℚ)) 3 := by
  refine ⟨Or.inl ?_, Or.inr ?_, ?_⟩
  · intro i j hij _; show ((i : ℚ) < (j : ℚ)); exact_mod_cast hij
  · intro i j hij _; show (-(j : ℚ) < -(i : ℚ)); rw [neg_lt_neg_iff]; exact_mod_cast hij
  · left; show ((0 : ℕ) : ℚ) ≤ 3 ∧ (3 : ℚ) ≤ ((5 - 1 : ℕ) : ℚ); norm_num

/-- F-15 regression on the model (FIXED code): knots 1 2 4, data 10 20 40, constant policy, value -1:
    the end-knot queries 1 and 4 return the data values, an outside query returns -1 -/
example :
    (interp1 false #[(1 : Rat), 2, 4] [3] #[10, 20, 40] [fin 1, fin 2, fin 4, fin (1/2), fin 3] 3 (fin (-1))).map
      (fun r => r.vals.map fun v => match v with | fin a => a | _ => 0)
      = .ok [10, 20, 40, -1, 30] := by decide +kernel

end Adept.Interp
