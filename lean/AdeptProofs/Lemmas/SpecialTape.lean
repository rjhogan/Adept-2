import AdeptProofs.Lemmas.Special
/-!
What an assignment to an ACTIVE special matrix records (`SM.assignActiveScalar`, `SM.recPassiveScalar`, `SM.recExpr` of
AdeptModel/Special.lean): per row the inner loops record one statement per written position, its left-hand side that
position's address.
-/
namespace Adept.Special
open Adept.Engines

theorem SM.recRow_lhs (m : SM) : ∀ (n : Nat) (rhs : AExpr) (idx stride : Int),
    (m.recRow n rhs idx stride).map Stmt.lhs = (List.range n).map (fun (t : Nat) => m.base + idx + (t : Int) * stride) := by
  intro n
  induction n with
  | zero => intro _ _ _; rfl
  | succ n ih =>
    intro rhs idx stride
    rw [SM.recRow, List.map_cons, ih, map_range_succ]
    congr 1
    · rw [Nat.cast_zero, zero_mul, add_zero]
    · exact List.map_congr_left (fun t _ => by rw [Nat.cast_succ]; ring)

theorem SM.recRow_ops (m : SM) (rhs : AExpr) (hr : rhs.AllAdm) (i : Int) : ∀ (n : Nat) (j idx stride : Int),
    (m.recRow n (rhs.setLocation i j) idx stride).map Stmt.ops
      = (List.range n).map (fun (t : Nat) => (rhs.setLocation i (j + (t : Int))).grads 1) := by
  intro n
  induction n with
  | zero => intro _ _ _; rfl
  | succ n ih =>
    intro j idx stride
    rw [SM.recRow, List.map_cons, rhs.advance_setLocation hr, ih, map_range_succ]
    congr 1
    · rw [Nat.cast_zero, add_zero]
    · exact List.map_congr_left (fun t _ => by rw [Nat.cast_succ, add_assoc, add_comm 1])

theorem SM.lhsRange_lhs : ∀ (n : Nat) (first stride : Int),
    (SM.lhsRange first n stride).map Stmt.lhs = (List.range n).map (fun (t : Nat) => first + (t : Int) * stride) := by
  intro n
  induction n with
  | zero => intro _ _; rfl
  | succ n ih =>
    intro first stride
    rw [SM.lhsRange, List.map_cons, ih, map_range_succ]
    congr 1
    · rw [Nat.cast_zero, zero_mul, add_zero]
    · exact List.map_congr_left (fun t _ => by rw [Nat.cast_succ]; ring)

theorem SM.lhsRange_ops : ∀ (n : Nat) (first stride : Int), ∀ s ∈ SM.lhsRange first n stride, s.ops = [] := by
  intro n
  induction n with
  | zero => intro _ _ s hs; simp [SM.lhsRange] at hs
  | succ n ih =>
    intro first stride s hs
    simp only [SM.lhsRange, List.mem_cons] at hs
    rcases hs with rfl | hs
    · rfl
    · exact ih _ _ s hs

theorem foldl_store_record {α : Type} (a v : α → Int) (h : α → SM.Stmt) : ∀ (l : List α) (s : Raw × List SM.Stmt),
    l.foldl (fun s p => (s.1.set (a p) (v p), s.2 ++ [h p])) s = (storeSeq a (fun _ => v) l s.1, s.2 ++ l.map h) := by
  intro l
  induction l with
  | nil => intro s; rw [List.map_nil, List.append_nil]; rfl
  | cons p l ih => intro s; rw [List.foldl_cons, ih, storeSeq_cons, List.map_cons, List.append_assoc]; rfl

/-- the loop of `operator=(const Active&)`: per step the store of the passive scalar loop and one statement
    `lhs = address, ops = [(1, gx)]` -/
theorem SM.activeScalarRow_eq (m : SM) (val gx : Int) : ∀ (n : Nat) (idx stride : Int) (s : Raw × List Stmt),
    m.activeScalarRow val gx n idx stride s
      = (List.range n).foldl (fun s (t : Nat) => (s.1.set (m.base + idx + (t : Int) * stride) val,
          s.2 ++ [(⟨m.base + idx + (t : Int) * stride, [(1, gx)]⟩ : Stmt)])) s := by
  intro n
  induction n with
  | zero => intro _ _ s; rfl
  | succ n ih =>
    intro idx stride s
    obtain ⟨d, tape⟩ := s
    have h0 : m.base + idx + ((0 : Nat) : Int) * stride = m.base + idx := by rw [Nat.cast_zero, zero_mul, add_zero]
    have e (t : Nat) : m.base + idx + ((t + 1 : Nat) : Int) * stride = m.base + (idx + stride) + (t : Int) * stride := by
      rw [Nat.cast_succ]; ring
    rw [SM.activeScalarRow, ih, List.range_succ_eq_map, List.foldl_cons, List.foldl_map, h0]
    exact List.foldl_ext _ _ _ (fun s t _ => by rw [e])

theorem SM.activeScalarRowOf_eq (m : SM) (ha : m.Adm) (val gx : Int) (s : Raw × List Stmt) (i : Nat)
    (hi : (i : Int) < m.dim) :
    m.activeScalarRowOf val gx s i = ((List.range (m.rowLen i)).map (fun (t : Nat) =>
        ((i : Int), m.e.get_row_range_j_start (i : Int) m.dim m.offset + (t : Int)))).foldl
      (fun s p => (s.1.set (m.addr p) val, s.2 ++ [(⟨m.addr p, [(1, gx)]⟩ : Stmt)])) s := by
  rw [List.foldl_map, SM.activeScalarRowOf, m.activeScalarRow_eq]
  exact List.foldl_ext _ _ _ (fun s t ht => by rw [m.row_addr ha i hi t (List.mem_range.1 ht)])

theorem SM.canonAddrs_rows (m : SM) (ha : m.Adm) :
    (List.range m.dim.toNat).flatMap (fun (i : Nat) => (List.range (m.rowLen i)).map (fun (t : Nat) =>
        m.base + m.e.get_row_range_index_start (i : Int) m.dim m.offset
          + (t : Int) * m.e.get_row_range_index_stride (i : Int) m.dim m.offset))
      = m.canonPositions.map m.addr := by
  rw [SM.canonPositions, List.map_flatMap]
  refine List.flatMap_congr fun i hi => ?_
  have hi' : (i : Int) < m.dim := by have := List.mem_range.1 hi; have := ha.dim_pos; omega
  rw [List.map_map]
  exact List.map_congr_left fun t ht => m.row_addr ha i hi' t (List.mem_range.1 ht)

end Adept.Special
