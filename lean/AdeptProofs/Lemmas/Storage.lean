import AdeptModel.Storage
import AdeptProofs.Lemmas.Basic
/-!
Lemmas for C07 (storage life cycle).  Core Lean only.

`Inv`, defined here, is the reference-count invariant of the life-cycle model `AdeptModel/Storage.lean`.  Every change
the transcribed code makes to the links is one of three micro-steps — the pool changes and no count does (`InvC.pool`),
one Storage's count changes with the pool (`InvC.set_cell`: `add_link`+store, `remove_link`+`storage_ = 0`), a Storage is
created (`InvC.alloc_set`) — and every operation is a sequence of them.  What an operation owes is one statement,
`Yields (op s …) Q`: it returns a state satisfying `Q` (the invariant, and where needed what the operation did), or it
rejects with an exception class other than the two that mean a Storage object was misused; invariance and
fault-freedom of `step` are its two halves.  Where a property speaks of the raw outcome of a successful call
(`resizeAt_cases`, `newAt_spec`, `linkNew_spec`) a second lemma describes that outcome.
-/
namespace Adept.Storage

theorem set_eq_take_cons_drop {α} {l : List α} {i : Nat} {a x : α} (h : l[i]? = some a) :
    l.set i x = l.take i ++ x :: l.drop (i + 1) := by
  rw [List.set_eq_take_append_cons_drop, if_pos (List.getElem?_eq_some_iff.mp h).1]

theorem countP_set_add {α} (p : α → Bool) {l : List α} {i : Nat} {a x : α} (h : l[i]? = some a) :
    (l.set i x).countP p + (if p a then 1 else 0) = l.countP p + (if p x then 1 else 0) := by
  rw [set_eq_take_cons_drop h]
  conv => rhs; rw [eq_take_cons_drop h]
  simp only [List.countP_append, List.countP_cons]
  omega

theorem countP_eraseIdx_add {α} (p : α → Bool) {l : List α} {i : Nat} {a : α} (h : l[i]? = some a) :
    (l.eraseIdx i).countP p + (if p a then 1 else 0) = l.countP p := by
  rw [List.eraseIdx_eq_take_drop_succ]
  conv => rhs; rw [eq_take_cons_drop h]
  simp only [List.countP_append, List.countP_cons]
  omega

theorem sum_map_set_add {α} (f : α → Nat) {l : List α} {i : Nat} {a x : α} (h : l[i]? = some a) :
    ((l.set i x).map f).sum + f a = (l.map f).sum + f x := by
  rw [set_eq_take_cons_drop h]
  conv => rhs; rw [eq_take_cons_drop h]
  simp only [List.map_append, List.map_cons, List.sum_append, List.sum_cons]
  omega

theorem getElem?_set_self' {α} {l : List α} {i : Nat} {a x : α} (h : l[i]? = some a) : (l.set i x)[i]? = some x :=
  List.getElem?_set_self (List.getElem?_eq_some_iff.mp h).1

theorem list_set_same {α} {l : List α} {i : Nat} {a : α} (h : l[i]? = some a) : l.set i a = l := by
  obtain ⟨hlt, rfl⟩ := List.getElem?_eq_some_iff.mp h
  exact List.set_getElem_self hlt

theorem eraseIdx_append_last {α} (l : List α) (x : α) : (l ++ [x]).eraseIdx l.length = l := by
  rw [List.eraseIdx_append_of_length_le (Nat.le_refl _), Nat.sub_self]
  exact List.append_nil l

def holds (σ : Nat) (o : Obj) : Bool := o.storage == some σ

def wt (σ : Nat) (o : Obj) : Nat := if holds σ o then 1 else 0

/-- number of live array objects whose `storage_` is Storage σ -/
def refs (σ : Nat) (pool : List Obj) : Nat := pool.countP (holds σ)

theorem holds_iff {σ : Nat} {o : Obj} : holds σ o = true ↔ o.storage = some σ := by
  simp [holds]

theorem wt_none {σ : Nat} {o : Obj} (h : o.storage = none) : wt σ o = 0 := by
  simp [wt, holds, h]

theorem wt_eq {σ : Nat} {o : Obj} (h : o.storage = some σ) : wt σ o = 1 := by
  simp [wt, holds, h]

theorem wt_ne {σ τ : Nat} {o : Obj} (h : o.storage = some τ) (hne : τ ≠ σ) : wt σ o = 0 := by
  simp [wt, holds, h, hne]

theorem wt_le_one (σ : Nat) (o : Obj) : wt σ o ≤ 1 := by
  unfold wt; split <;> omega

theorem refs_set {σ : Nat} {p : List Obj} {i : Nat} {a x : Obj} (h : p[i]? = some a) :
    refs σ (p.set i x) + wt σ a = refs σ p + wt σ x :=
  countP_set_add (holds σ) h

theorem refs_erase {σ : Nat} {p : List Obj} {i : Nat} {a : Obj} (h : p[i]? = some a) :
    refs σ (p.eraseIdx i) + wt σ a = refs σ p :=
  countP_eraseIdx_add (holds σ) h

theorem refs_push {σ : Nat} {p : List Obj} {o : Obj} : refs σ (p ++ [o]) = refs σ p + wt σ o := by
  simp [refs, wt, List.countP_append, List.countP_cons]

theorem refs_pos_of_mem {σ : Nat} {p : List Obj} {o : Obj} (hm : o ∈ p) (h : o.storage = some σ) :
    0 < refs σ p :=
  List.countP_pos_iff.mpr ⟨o, hm, holds_iff.mpr h⟩

theorem refs_nil (σ : Nat) : refs σ [] = 0 := rfl

theorem two_refs {p : List Obj} {i j σ : Nat} {a b : Obj} (hij : i ≠ j) (ha : p[i]? = some a) (hb : p[j]? = some b)
    (has : a.storage = some σ) (hbs : b.storage = some σ) : 2 ≤ refs σ p := by
  have h1 := refs_set (σ := σ) (x := { a with storage := none }) ha
  rw [wt_eq has, wt_none rfl] at h1
  have hb' : (p.set i { a with storage := none })[j]? = some b := by rw [List.getElem?_set_ne hij]; exact hb
  have := refs_pos_of_mem (List.mem_of_getElem? hb') hbs
  omega

def Inside (o : Obj) (size : Nat) : Prop := o.off + extentOf o ≤ size

structure InvC (h : List Sto) (p : List Obj) (c d : Nat) : Prop where
  /-- a Storage that has not been deleted has exactly as many links as live objects refer to it, at least one -/
  counts : ∀ σ r, h[σ]? = some r → r.freed = false → r.nLinks = refs σ p ∧ 0 < r.nLinks
  /-- an object holding a Storage holds one that has not been deleted, and its data lie inside it -/
  objs : ∀ o, o ∈ p → ∀ σ, o.storage = some σ →
    ∃ r, h[σ]? = some r ∧ r.freed = false ∧ o.region = .sto σ ∧ Inside o r.size
  /-- data pointers only point at allocations that have existed -/
  inScope : ∀ o, o ∈ p → ∀ σ, o.region = .sto σ → σ < h.length
  created : c = h.length
  deleted : d = h.countP (fun r => r.freed)

/-- gradients a Storage object holds registered: its `n_` while it is active and has not been deleted -/
def gradOf (r : Sto) : Nat := if r.active && !r.freed then r.size else 0

def gradSum (h : List Sto) : Nat := (h.map gradOf).sum

/-- the invariant of the life-cycle model: reference counts (`core`) and gradient registration (`grad`) -/
structure Inv (s : St) : Prop where
  core : InvC s.heap s.pool s.created s.deleted
  /-- `n_gradients_registered()` is exactly what the live active Storage objects registered -/
  grad : s.gradReg = gradSum s.heap

theorem Inv.counts {s : St} (I : Inv s) :
    ∀ σ r, s.heap[σ]? = some r → r.freed = false → r.nLinks = refs σ s.pool ∧ 0 < r.nLinks := I.core.counts
theorem Inv.objs {s : St} (I : Inv s) : ∀ o, o ∈ s.pool → ∀ σ, o.storage = some σ →
    ∃ r, s.heap[σ]? = some r ∧ r.freed = false ∧ o.region = .sto σ ∧ Inside o r.size := I.core.objs
theorem Inv.inScope {s : St} (I : Inv s) : ∀ o, o ∈ s.pool → ∀ σ, o.region = .sto σ → σ < s.heap.length :=
  I.core.inScope
theorem Inv.created {s : St} (I : Inv s) : s.created = s.heap.length := I.core.created
theorem Inv.deleted {s : St} (I : Inv s) : s.deleted = s.heap.countP (fun r => r.freed) := I.core.deleted

theorem inv_init : Inv init := by
  refine ⟨⟨?_, ?_, ?_, rfl, rfl⟩, rfl⟩
  · intro σ r h; simp [init] at h
  · intro o h; simp [init] at h
  · intro o h; simp [init] at h

theorem gradSum_set {h : List Sto} {σ : Nat} {r r' : Sto} (hr : h[σ]? = some r) :
    gradSum (h.set σ r') + gradOf r = gradSum h + gradOf r' :=
  sum_map_set_add gradOf hr

theorem gradSum_set_same {h : List Sto} {σ : Nat} {r r' : Sto} (hr : h[σ]? = some r) (he : gradOf r' = gradOf r) :
    gradSum (h.set σ r') = gradSum h := by
  have := gradSum_set (r' := r') hr
  omega

theorem gradSum_append (h : List Sto) (r : Sto) : gradSum (h ++ [r]) = gradSum h + gradOf r := by
  simp [gradSum]

/-- the object `o` may be stored beside the heap `h`: its data pointer names an allocation that has existed, and
    what it holds is alive and contains its data -/
structure Fits (h : List Sto) (o : Obj) : Prop where
  scope : ∀ σ, o.region = .sto σ → σ < h.length
  held : ∀ σ, o.storage = some σ → ∃ r, h[σ]? = some r ∧ r.freed = false ∧ o.region = .sto σ ∧ Inside o r.size

theorem InvC.fits {h p c d} (I : InvC h p c d) {o : Obj} (hm : o ∈ p) : Fits h o :=
  ⟨I.inScope o hm, I.objs o hm⟩

theorem fits_of_none {h : List Sto} {o : Obj} (ho : o.storage = none) (hs : ∀ σ, o.region = .sto σ → σ < h.length) :
    Fits h o :=
  ⟨hs, fun σ hσ => by rw [ho] at hσ; cases hσ⟩

theorem fits_blank (h : List Sto) (k : Kind) : Fits h (blank k) :=
  fits_of_none rfl (fun _ hσ => nomatch hσ)

def dropSto (a : Obj) : Obj := { a with storage := none }

theorem dropSto_of_none {a : Obj} (h : a.storage = none) : dropSto a = a := by
  cases a; cases h; rfl

theorem Fits.dropSto {h : List Sto} {a : Obj} (F : Fits h a) : Fits h (dropSto a) :=
  fits_of_none rfl F.scope

theorem InvC.fits_push {h p c d} (I : InvC h p c d) {o : Obj} (F : Fits h o) : ∀ o', o' ∈ p ++ [o] → Fits h o' := by
  intro o' hm
  rcases List.mem_append.mp hm with hm | hm
  · exact I.fits hm
  · cases List.mem_singleton.mp hm; exact F

theorem InvC.fits_set {h p c d} (I : InvC h p c d) {o : Obj} (F : Fits h o) (i : Nat) :
    ∀ o', o' ∈ p.set i o → Fits h o' := by
  intro o' hm
  rcases List.mem_or_eq_of_mem_set hm with hm | hm
  · exact I.fits hm
  · cases hm; exact F

/-- the pool changes, no count does: an object without a Storage is appended, stored over another such, or erased;
    two objects are exchanged -/
theorem InvC.pool {h p p' c d} (I : InvC h p c d) (hrefs : ∀ σ, refs σ p' = refs σ p)
    (hfit : ∀ o, o ∈ p' → Fits h o) : InvC h p' c d :=
  ⟨fun σ r hr hf => by rw [hrefs]; exact I.counts σ r hr hf,
   fun o hm => (hfit o hm).held, fun o hm => (hfit o hm).scope, I.created, I.deleted⟩

/-- the entry of one live Storage σ changes (its size does not) while the pool changes: the new entry counts the
    new referrers of σ, or is deleted and σ has none; no other Storage gains or loses a referrer -/
theorem InvC.set_cell {h p p' c d} (I : InvC h p c d) {σ : Nat} {r r' : Sto}
    (hr : h[σ]? = some r) (hf : r.freed = false) (hsz : r'.size = r.size)
    (hlive : r'.freed = false → r'.nLinks = refs σ p' ∧ 0 < r'.nLinks)
    (hdead : r'.freed = true → refs σ p' = 0)
    (hrefs : ∀ τ, σ ≠ τ → refs τ p' = refs τ p)
    (hfit : ∀ o, o ∈ p' → Fits h o) :
    InvC (h.set σ r') p' c (d + if r'.freed then 1 else 0) := by
  refine ⟨?_, ?_, ?_, ?_, ?_⟩
  · intro τ t ht hft
    by_cases hτ : σ = τ
    · subst hτ
      rw [getElem?_set_self' hr] at ht; cases ht
      exact hlive hft
    · rw [List.getElem?_set_ne hτ] at ht
      rw [hrefs τ hτ]; exact I.counts τ t ht hft
  · intro o hm τ hτ
    obtain ⟨t, ht, hft, hreg, hin⟩ := (hfit o hm).held τ hτ
    by_cases e : σ = τ
    · subst e
      rw [hr] at ht; cases ht
      refine ⟨r', getElem?_set_self' hr, ?_, hreg, by rw [hsz]; exact hin⟩
      cases hfr : r'.freed with
      | false => rfl
      | true => have := refs_pos_of_mem hm hτ; have := hdead hfr; omega
    · exact ⟨t, by rw [List.getElem?_set_ne e]; exact ht, hft, hreg, hin⟩
  · intro o hm τ hτ; rw [List.length_set]; exact (hfit o hm).scope τ hτ
  · rw [List.length_set]; exact I.created
  · have h1 := countP_set_add (fun t : Sto => t.freed) (x := r') hr
    have h2 := I.deleted
    simp only [hf, Bool.false_eq_true, if_false] at h1
    omega

/-- a fresh allocation of `n` elements handed to the object at position `i` -/
theorem InvC.alloc_set {h p c d} (I : InvC h p c d) {i n : Nat} {a o : Obj} {act : Bool} (ha : p[i]? = some a)
    (has : a.storage = none) (hos : o.storage = some h.length) (hor : o.region = .sto h.length)
    (hin : Inside o n) :
    InvC (h ++ [{ nLinks := 1, freed := false, size := n, active := act }]) (p.set i o) (c + 1) d := by
  have hrefs : ∀ τ, refs τ (p.set i o) = refs τ p + wt τ o := by
    intro τ
    have := refs_set (σ := τ) (x := o) ha
    rw [wt_none has] at this; omega
  have hnew : refs h.length p = 0 := by
    apply Nat.eq_zero_of_not_pos
    intro hpos
    obtain ⟨o', hm, ho'⟩ := List.countP_pos_iff.mp hpos
    obtain ⟨r', hr', _⟩ := I.objs o' hm h.length (holds_iff.mp ho')
    have := (List.getElem?_eq_some_iff.mp hr').1
    omega
  refine ⟨?_, ?_, ?_, by simp [I.created], ?_⟩
  · intro τ r hr hf
    rcases Nat.lt_trichotomy τ h.length with hτ | hτ | hτ
    · rw [List.getElem?_append_left hτ] at hr
      rw [hrefs, wt_ne hos (by omega)]; exact I.counts τ r hr hf
    · subst hτ
      rw [List.getElem?_append_right (Nat.le_refl _), Nat.sub_self] at hr
      cases hr
      rw [hrefs, hnew, wt_eq hos]; exact ⟨rfl, Nat.one_pos⟩
    · rw [List.getElem?_eq_none (by simp; omega)] at hr; cases hr
  · intro o' hm τ hτ
    rcases List.mem_or_eq_of_mem_set hm with hm' | hm'
    · obtain ⟨r'', h1, h2, h3, h4⟩ := I.objs o' hm' τ hτ
      exact ⟨r'', by rw [List.getElem?_append_left (List.getElem?_eq_some_iff.mp h1).1]; exact h1, h2, h3, h4⟩
    · subst hm'
      rw [hos] at hτ; cases hτ
      exact ⟨{ nLinks := 1, freed := false, size := n, active := act }, by simp, rfl, hor, hin⟩
  · intro o' hm τ hτ
    rw [List.length_append]
    rcases List.mem_or_eq_of_mem_set hm with hm' | hm'
    · have := I.inScope o' hm' τ hτ; omega
    · subst hm'; rw [hor] at hτ; cases hτ; simp
  · simp [List.countP_append]; exact I.deleted

def bump (r : Sto) : Sto := { nLinks := r.nLinks + 1, freed := false, size := r.size, active := r.active }

theorem gradOf_bump {r : Sto} (hf : r.freed = false) : gradOf (bump r) = gradOf r := by
  simp [gradOf, bump, hf]

theorem inv_link {s : St} (I : Inv s) {σ : Nat} {r : Sto} {o : Obj} {p' : List Obj}
    (hr : s.heap[σ]? = some r) (hf : r.freed = false) (ho : o.storage = some σ)
    (hrefs : ∀ τ, refs τ p' = refs τ s.pool + wt τ o) (hfit : ∀ o', o' ∈ p' → Fits s.heap o') :
    Inv { s with heap := s.heap.set σ (bump r), pool := p' } := by
  have hc := I.counts σ r hr hf
  refine ⟨I.core.set_cell hr hf rfl (fun _ => ?_) (fun h => nomatch h) (fun τ hτ => ?_) hfit, ?_⟩
  · rw [hrefs, wt_eq ho]; exact ⟨by simp only [bump]; omega, Nat.succ_pos _⟩
  · rw [hrefs, wt_ne ho hτ]; rfl
  · exact I.grad.trans (gradSum_set_same hr (gradOf_bump hf)).symm

theorem inv_pool {s : St} (I : Inv s) {p' : List Obj} (hrefs : ∀ σ, refs σ p' = refs σ s.pool)
    (hfit : ∀ o, o ∈ p' → Fits s.heap o) : Inv { s with pool := p' } :=
  ⟨I.core.pool hrefs hfit, I.grad⟩

theorem push_inv {s : St} (I : Inv s) {o : Obj} (ho : o.storage = none) (hs : ∀ σ, o.region = .sto σ → σ < s.heap.length) :
    Inv (push s o) :=
  inv_pool I (fun σ => by rw [refs_push, wt_none ho]; rfl) (I.core.fits_push (fits_of_none ho hs))

theorem push_blank_inv {s : St} (I : Inv s) (k : Kind) : Inv (push s (blank k)) :=
  push_inv I rfl (fun _ h => nomatch h)

theorem setObj_none_inv {s : St} (I : Inv s) {i : Nat} {a o : Obj} (ha : s.pool[i]? = some a)
    (has : a.storage = none) (ho : o.storage = none) (hs : ∀ σ, o.region = .sto σ → σ < s.heap.length) :
    Inv (setObj s i o) :=
  inv_pool I (fun σ => by have := refs_set (σ := σ) (x := o) ha; rw [wt_none has, wt_none ho] at this; exact this)
    (I.core.fits_set (fits_of_none ho hs) i)

theorem erase_none_inv {s : St} (I : Inv s) {i : Nat} {a : Obj} (ha : s.pool[i]? = some a) (has : a.storage = none) :
    Inv { s with pool := s.pool.eraseIdx i } :=
  inv_pool I (fun σ => by have := refs_erase (σ := σ) ha; rw [wt_none has] at this; exact this)
    (fun _ hm => I.core.fits (List.mem_of_mem_eraseIdx hm))

theorem swapObjs_inv {s : St} {i j : Nat} {a b : Obj} (I : Inv s) (ha : s.pool[i]? = some a) (hb : s.pool[j]? = some b) :
    Inv (swapObjs s i j a b) := by
  have hj : (s.pool.set i b)[j]? = some b := by
    by_cases e : i = j
    · subst e; exact getElem?_set_self' ha
    · rw [List.getElem?_set_ne e]; exact hb
  refine inv_pool I (fun σ => ?_) (fun o hm => ?_)
  · have h1 := refs_set (σ := σ) (x := b) ha
    have h2 := refs_set (σ := σ) (x := a) hj
    show refs σ ((s.pool.set i b).set j a) = _
    omega
  · rcases List.mem_or_eq_of_mem_set hm with hm | hm
    · exact I.core.fits_set (I.core.fits (List.mem_of_getElem? hb)) i o hm
    · cases hm; exact I.core.fits (List.mem_of_getElem? ha)

theorem ownerOf_storage (k : Kind) (σ n0 n1 : Nat) : (ownerOf k σ n0 n1).storage = some σ := by
  cases k <;> rfl

theorem ownerOf_region (k : Kind) (σ n0 n1 : Nat) : (ownerOf k σ n0 n1).region = .sto σ := by
  cases k <;> rfl

theorem ownerOf_kind (k : Kind) (σ n0 n1 : Nat) : (ownerOf k σ n0 n1).kind = k := by
  cases k <;> rfl

/-- what `resize` allocates holds the whole packed object: for a vector `n0` elements, for a matrix `n0` rows of `n1`;
    a special matrix is allocated exactly its extent (`Engine::data_size`) -/
theorem ownerOf_inside (k : Kind) (σ n0 n1 : Nat) : Inside (ownerOf k σ n0 n1) (dataVolume k n0 n1) := by
  have le_of {a b : Nat} (h : n0 ≠ 0 → a ≤ b) : (0 + if n0 = 0 then 0 else a) ≤ b := by
    split
    · exact Nat.zero_le _
    · rw [Nat.zero_add]; exact h ‹_›
  unfold Inside
  cases k with
  | vec | avec | dvec =>
    simp only [ownerOf, extentOf, dataVolume]
    exact le_of fun h => by omega
  | mat =>
    simp only [ownerOf, extentOf, dataVolume]
    by_cases hz : n0 = 0 ∨ n1 = 0
    · simp [hz]
    · simp only [hz, if_false]
      cases n0 with
      | zero => exact absurd (Or.inl rfl) hz
      | succ m => rw [Nat.succ_mul]; simp; omega
  | symm | asymm | tri | diag | adiag =>
    simp only [ownerOf, extentOf, dataVolume]
    exact le_of fun _ => Nat.le_refl _

theorem cells_of_len_zero {o : Obj} (h : o.len = 0) : cells o = [] := by
  unfold cells
  cases o.kind <;> simp [h]

/-- `s'` has the objects, Storage objects and counters of `s`: only stored values, the fault schedule or `thrown`
    may differ -/
structure SameLinks (s s' : St) : Prop where
  heap : s'.heap = s.heap
  pool : s'.pool = s.pool
  created : s'.created = s.created
  deleted : s'.deleted = s.deleted
  gradReg : s'.gradReg = s.gradReg

theorem SameLinks.refl (s : St) : SameLinks s s := ⟨rfl, rfl, rfl, rfl, rfl⟩

theorem SameLinks.trans {s s1 s2 : St} (h1 : SameLinks s s1) (h2 : SameLinks s1 s2) : SameLinks s s2 :=
  ⟨h2.heap.trans h1.heap, h2.pool.trans h1.pool, h2.created.trans h1.created, h2.deleted.trans h1.deleted,
   h2.gradReg.trans h1.gradReg⟩

theorem SameLinks.inv {s s' : St} (h : SameLinks s s') (I : Inv s) : Inv s' := by
  refine ⟨?_, ?_⟩
  · rw [h.heap, h.pool, h.created, h.deleted]; exact I.core
  · rw [h.gradReg, h.heap]; exact I.grad

theorem fillOwner_same (s : St) (o : Obj) (v0 : Int) :
    SameLinks s (fillOwner s o v0) ∧ (fillOwner s o v0).thrown = s.thrown := by
  unfold fillOwner
  split
  · exact ⟨.refl s, rfl⟩
  · split
    · exact ⟨.refl s, rfl⟩
    · exact ⟨⟨rfl, rfl, rfl, rfl, rfl⟩, rfl⟩

theorem allocTick_same (s : St) : SameLinks s (allocTick s).1 := by
  unfold allocTick
  split
  · exact ⟨rfl, rfl, rfl, rfl, rfl⟩
  · exact ⟨rfl, rfl, rfl, rfl, rfl⟩

theorem allocTick_passed (s : St) (h : (allocTick s).2 = false) : (allocTick s).1.thrown = s.thrown := by
  unfold allocTick at h ⊢
  split
  · rename_i h1; rw [if_pos h1] at h; cases h
  · rfl

theorem allocTick_failed (s : St) (h : (allocTick s).2 = true) : (allocTick s).1.thrown = true := by
  unfold allocTick at h ⊢
  split
  · rfl
  · rename_i hne; rw [if_neg hne] at h; cases h

/-- `r` is a result satisfying `Q`, or a rejection with a class other than the two that mean a Storage object was
    misused: touched after `delete this` (`fault`), or `remove_link` with no link left (`linkUnderflow`).  What
    remains is a documented array exception, a request that is no operation (`badOp`), or a data access through a
    stale soft link or external view (`badAccess`, the user's error). -/
def Yields {α} (r : Except Err α) (Q : α → Prop) : Prop :=
  match r with
  | .ok a => Q a
  | .error e => e ≠ .fault ∧ e ≠ .linkUnderflow

theorem yields_ok {α} {Q : α → Prop} {a : α} : Yields (.ok a) Q ↔ Q a := Iff.rfl

theorem yields_error {α} {Q : α → Prop} {e : Err} :
    Yields (.error e : Except Err α) Q ↔ e ≠ .fault ∧ e ≠ .linkUnderflow := Iff.rfl

theorem yields_ite {α} {Q : α → Prop} {c : Prop} [Decidable c] {x y : Except Err α} :
    Yields (if c then x else y) Q ↔ (c → Yields x Q) ∧ (¬ c → Yields y Q) := by
  split <;> simp [*]

theorem Yields.reject {α} {Q : α → Prop} {e : Err} (h : e ≠ .fault ∧ e ≠ .linkUnderflow) :
    Yields (.error e : Except Err α) Q := h

theorem Yields.of_ok {α} {Q : α → Prop} {r : Except Err α} {a : α} (Y : Yields r Q) (h : r = .ok a) : Q a := by
  subst h; exact Y

theorem Yields.mono {α} {Q Q' : α → Prop} {r : Except Err α} (Y : Yields r Q) (h : ∀ a, r = .ok a → Q a → Q' a) :
    Yields r Q' := by
  cases r with
  | ok a => exact h a rfl Y
  | error e => exact Y

/-- a result is taken apart where it is consumed: a rejection is handed on, a value goes on with what is known of it
    (`refine Yields.elim hx (fun _ h => h) fun a ha hQ => ?_` abstracts `x` in the goal as `cases` would) -/
@[elab_as_elim]
theorem Yields.elim {α} {P : α → Prop} {motive : Except Err α → Prop} {x : Except Err α} (hx : Yields x P)
    (herr : ∀ e, e ≠ .fault ∧ e ≠ .linkUnderflow → motive (.error e)) (hok : ∀ a, x = .ok a → P a → motive (.ok a)) :
    motive x := by
  cases x with
  | error e => exact herr e hx
  | ok a => exact hok a rfl hx

theorem Yields.of_total {α} {Q : α → Prop} {r : Except Err α} (h : ∃ a, r = .ok a ∧ Q a) : Yields r Q := by
  obtain ⟨a, rfl, hq⟩ := h; exact hq

theorem Yields.ne_fault {α} {Q : α → Prop} {r : Except Err α} (Y : Yields r Q) :
    r ≠ .error .fault ∧ r ≠ .error .linkUnderflow := by
  cases r with
  | ok a => exact ⟨nofun, nofun⟩
  | error e => exact ⟨fun h => Y.1 (by cases h; rfl), fun h => Y.2 (by cases h; rfl)⟩

theorem getObj_ok {s : St} {i : Nat} {a : Obj} : getObj s i = .ok a ↔ s.pool[i]? = some a := by
  unfold getObj
  cases h : s.pool[i]? <;> simp

theorem getObj_yields (s : St) (i : Nat) : Yields (getObj s i) fun a => s.pool[i]? = some a := by
  unfold getObj
  split
  · rename_i h; exact h
  · exact .reject (by decide)

theorem resizeCheck_yields (k : Kind) (strict : Bool) (n0 n1 : Int) :
    Yields (resizeCheck k strict n0 n1) fun _ => True := by
  cases k <;> simp only [resizeCheck, yields_ite, yields_ok, yields_error, ne_eq, reduceCtorEq, not_false_eq_true,
    and_self, implies_true]

theorem evalView_yields (b : Obj) (f : ViewFn) : Yields (evalView b f) fun _ => True := by
  -- per function, per class of `b`: a nest of `if`s whose leaves are `.ok _` or a literal exception class
  cases f <;> simp only [evalView] <;> split <;>
    simp only [yields_ite, yields_ok, yields_error, ne_eq, reduceCtorEq, not_false_eq_true, and_self, implies_true]

theorem readCell_err {s : St} {r : Region} {c : Nat} {e : Err} (h : readCell s r c = .error e) : e = .badAccess := by
  unfold readCell at h
  split at h
  · cases h; rfl
  · split at h
    · split at h
      · cases h; rfl
      · split at h
        · cases h
        · cases h; rfl
    · cases h; rfl
  · split at h
    · split at h
      · cases h
      · cases h; rfl
    · cases h; rfl

theorem writeCell_yields (s : St) (r : Region) (c : Nat) (v : Int) :
    Yields (writeCell s r c v) fun s' => SameLinks s s' ∧ (∀ σ, r ≠ .sto σ → s'.smem[σ]? = s.smem[σ]?) ∧
      (∀ x, r ≠ .ext x → s'.exts[x]? = s.exts[x]?) := by
  unfold writeCell
  split
  · exact .reject (by decide)
  · split
    · split
      · exact .reject (by decide)
      · split
        · exact ⟨⟨rfl, rfl, rfl, rfl, rfl⟩, fun τ hτ => List.getElem?_set_ne (fun e => hτ (by rw [e])), fun _ _ => rfl⟩
        · exact .reject (by decide)
    · exact .reject (by decide)
  · split
    · split
      · exact ⟨⟨rfl, rfl, rfl, rfl, rfl⟩, fun _ _ => rfl, fun y hy => List.getElem?_set_ne (fun e => hy (by rw [e]))⟩
      · exact .reject (by decide)
    · exact .reject (by decide)

theorem readCells_yields (s : St) (r : Region) : ∀ cs, Yields (readCells s r cs) fun _ => True
  | [] => trivial
  | c :: cs => by
    unfold readCells
    cases hc : readCell s r c with
    | error e => cases readCell_err hc; exact .reject (by decide)
    | ok v =>
      exact Yields.elim (readCells_yields s r cs) (fun _ h => h) fun _ _ _ => trivial

theorem readView_yields (s : St) (o : Obj) : Yields (readView s o) fun _ => True := readCells_yields _ _ _

theorem writeCells_yields (r : Region) : ∀ (cs : List Nat) (vs : List Int) (s : St),
    Yields (writeCells s r cs vs) fun s' => SameLinks s s'
  | [], _, s => .refl s
  | _ :: _, [], s => .refl s
  | c :: cs, v :: vs, s => by
    unfold writeCells
    refine Yields.elim (writeCell_yields s r c v) (fun _ h => h) fun s1 _ h1 => ?_
    exact (writeCells_yields r cs vs s1).mono fun s' _ h => h1.1.trans h

theorem addLink_live {s : St} {σ : Nat} {r : Sto} (hr : s.heap[σ]? = some r) (hf : r.freed = false) :
    addLink s σ = .ok { s with heap := s.heap.set σ (bump r) } := by
  simp [addLink, hr, hf, bump]

theorem removeLink_last {s : St} {σ : Nat} {r : Sto} (hr : s.heap[σ]? = some r) (hf : r.freed = false)
    (h1 : r.nLinks = 1) :
    removeLink s σ = .ok { s with heap := s.heap.set σ { r with nLinks := 0, freed := true }, deleted := s.deleted + 1,
                                  gradReg := if r.active then s.gradReg - r.size else s.gradReg } := by
  simp [removeLink, hr, hf, h1]

theorem removeLink_more {s : St} {σ : Nat} {r : Sto} (hr : s.heap[σ]? = some r) (hf : r.freed = false)
    (h1 : 1 < r.nLinks) :
    removeLink s σ =
      .ok { s with heap := s.heap.set σ { nLinks := r.nLinks - 1, freed := false, size := r.size, active := r.active } } := by
  have h0 : r.nLinks ≠ 0 := by omega
  have h2 : r.nLinks - 1 ≠ 0 := by omega
  simp [removeLink, hr, hf, h0, h2]

/-- a deleted Storage can be neither released nor linked again: in the model that is a fault, not a second delete -/
theorem freed_is_final {s : St} {σ : Nat} {r : Sto} (hr : s.heap[σ]? = some r) (hf : r.freed = true) :
    removeLink s σ = .error .fault ∧ addLink s σ = .error .fault ∧ nLinksOf s σ = .error .fault := by
  simp [removeLink, addLink, nLinksOf, hr, hf]

theorem removeLink_at_zero {s : St} {σ : Nat} {r : Sto} (hr : s.heap[σ]? = some r) (hf : r.freed = false)
    (h0 : r.nLinks = 0) : removeLink s σ = .error .linkUnderflow := by
  simp [removeLink, hr, hf, h0]

theorem grad_after_free {s : St} {σ : Nat} {r : Sto} (hg : s.gradReg = gradSum s.heap) (hr : s.heap[σ]? = some r)
    (hf : r.freed = false) :
    (if r.active then s.gradReg - r.size else s.gradReg) = gradSum (s.heap.set σ { r with nLinks := 0, freed := true }) := by
  have := gradSum_set (r' := { r with nLinks := 0, freed := true }) hr
  cases hact : r.active <;> simp [gradOf, hf, hact] at this ⊢ <;> omega

theorem linkNew_fits {s : St} {o : Obj} (I : Inv s) (F : Fits s.heap o) : ∃ s', linkNew s o = .ok s' ∧ Inv s' := by
  unfold linkNew
  cases ho : o.storage with
  | none => exact ⟨_, rfl, push_inv I ho F.scope⟩
  | some σ =>
    obtain ⟨r, hr, hf, _⟩ := F.held σ ho
    simp only [addLink_live hr hf]
    exact ⟨_, rfl, inv_link I hr hf ho (fun _ => refs_push) (I.core.fits_push F)⟩

/-- heap after a linking constructor / `link`: the source's Storage gains exactly one link, nothing else moves -/
def heapLinked (s s' : St) (o : Obj) : Prop :=
  match o.storage with
  | none => s'.heap = s.heap
  | some σ => ∃ r, s.heap[σ]? = some r ∧ r.freed = false ∧ s'.heap = s.heap.set σ (bump r)

theorem heapLinked_none {s s' : St} {o : Obj} (h : o.storage = none) : heapLinked s s' o ↔ s'.heap = s.heap := by
  simp only [heapLinked, h]

theorem heapLinked_some {s s' : St} {o : Obj} {σ : Nat} (h : o.storage = some σ) :
    heapLinked s s' o ↔ ∃ r, s.heap[σ]? = some r ∧ r.freed = false ∧ s'.heap = s.heap.set σ (bump r) := by
  simp only [heapLinked, h]

theorem linkNew_spec {s s' : St} {o : Obj} (h : linkNew s o = .ok s') :
    s'.pool = s.pool ++ [o] ∧ heapLinked s s' o := by
  unfold linkNew at h
  cases ho : o.storage with
  | none => simp only [ho] at h; cases h; exact ⟨rfl, (heapLinked_none ho).mpr rfl⟩
  | some σ =>
    rw [heapLinked_some ho]
    simp only [ho] at h
    unfold addLink at h
    cases hr : s.heap[σ]? with
    | none => simp [hr] at h
    | some r =>
      simp only [hr] at h
      cases hf : r.freed with
      | true => simp [hf] at h
      | false =>
        simp [hf] at h; subst h
        exact ⟨rfl, r, rfl, hf, by simp [push, bump]⟩

/-- `if (storage_) { storage_->remove_link(); storage_ = 0; }` never faults under the invariant, and keeps it -/
theorem releaseAt_spec {s : St} {i : Nat} {a : Obj} (I : Inv s) (ha : s.pool[i]? = some a) :
    ∃ s', releaseAt s i = .ok s' ∧ Inv s' ∧ s'.pool = s.pool.set i (dropSto a) ∧
      s'.heap.length = s.heap.length ∧ s'.thrown = s.thrown := by
  have F := I.core.fits (List.mem_of_getElem? ha)
  unfold releaseAt
  rw [getObj_ok.mpr ha]
  simp only
  cases has : a.storage with
  | none => exact ⟨s, rfl, I, by rw [dropSto_of_none has, list_set_same ha], rfl, rfl⟩
  | some σ =>
    obtain ⟨r, hr, hf, _⟩ := F.held σ has
    obtain ⟨hcnt, hpos⟩ := I.counts σ r hr hf
    have hrefs : ∀ τ, refs τ (s.pool.set i (dropSto a)) + wt τ a = refs τ s.pool := by
      intro τ
      have := refs_set (σ := τ) (x := dropSto a) ha
      rw [wt_none (show (dropSto a).storage = none from rfl)] at this; exact this
    have hσ := hrefs σ
    rw [wt_eq has] at hσ
    have hτ : ∀ τ, σ ≠ τ → refs τ (s.pool.set i (dropSto a)) = refs τ s.pool := by
      intro τ hne
      have := hrefs τ
      rw [wt_ne has hne] at this; exact this
    have hfit := I.core.fits_set F.dropSto i
    by_cases h1 : r.nLinks = 1
    · simp only [removeLink_last hr hf h1]
      refine ⟨_, rfl, ⟨?_, grad_after_free I.grad hr hf⟩, rfl, List.length_set, rfl⟩
      exact I.core.set_cell (p' := s.pool.set i (dropSto a)) (r' := { r with nLinks := 0, freed := true }) hr hf rfl
        (fun h => nomatch h) (fun _ => by omega) hτ hfit
    · simp only [removeLink_more hr hf (by omega)]
      refine ⟨_, rfl, ⟨?_, ?_⟩, rfl, List.length_set, rfl⟩
      · exact I.core.set_cell (p' := s.pool.set i (dropSto a)) (r' := { nLinks := r.nLinks - 1, freed := false, size := r.size, active := r.active }) hr hf rfl
          (fun _ => ⟨by show r.nLinks - 1 = _; omega, by show 0 < r.nLinks - 1; omega⟩)
          (fun h => nomatch h) hτ hfit
      · exact I.grad.trans (gradSum_set_same hr (by simp [gradOf, hf])).symm

theorem clearAt_spec {s : St} {i : Nat} {a : Obj} (I : Inv s) (ha : s.pool[i]? = some a) :
    ∃ s', clearAt s i = .ok s' ∧ Inv s' ∧ s'.pool = s.pool.set i (blank a.kind) ∧
      s'.heap.length = s.heap.length ∧ s'.thrown = s.thrown := by
  obtain ⟨s1, h1, I1, hp, hl, ht⟩ := releaseAt_spec I ha
  have hi : s1.pool[i]? = some (dropSto a) := by rw [hp]; exact getElem?_set_self' ha
  unfold clearAt
  rw [getObj_ok.mpr ha]
  simp only [h1]
  exact ⟨_, rfl, setObj_none_inv I1 hi rfl rfl (fun _ h => nomatch h), by simp [setObj, hp], hl, ht⟩

theorem clearAt_safe {s : St} (I : Inv s) (i : Nat) : Yields (clearAt s i) Inv := by
  cases ha : s.pool[i]? with
  | none => exact (show clearAt s i = .error .badOp by simp [clearAt, getObj, ha]) ▸ .reject (by decide)
  | some a => obtain ⟨s', h', I', _⟩ := clearAt_spec I ha; exact .of_total ⟨s', h', I'⟩

theorem destroyAt_safe {s : St} (I : Inv s) (i : Nat) : Yields (destroyAt s i) Inv := by
  cases ha : s.pool[i]? with
  | none => exact (show destroyAt s i = .error .badOp by simp [destroyAt, releaseAt, getObj, ha]) ▸ .reject (by decide)
  | some a =>
    obtain ⟨s1, h1, I1, hp, _⟩ := releaseAt_spec I ha
    have hi : s1.pool[i]? = some (dropSto a) := by rw [hp]; exact getElem?_set_self' ha
    unfold destroyAt
    simp only [h1]
    exact erase_none_inv I1 hi rfl

/-- the state `resize` leaves when it allocates: released, a new Storage, the packed owner stored, elements filled -/
def resized (s1 : St) (i : Nat) (k : Kind) (m0 m1 : Nat) (v0 : Int) : St :=
  fillOwner (setObj (newStorage s1 (dataVolume k m0 m1) k.active).1 i (ownerOf k s1.heap.length m0 m1))
    (ownerOf k s1.heap.length m0 m1) v0

theorem resized_inv {s1 : St} {i : Nat} {a : Obj} (I1 : Inv s1) (hi : s1.pool[i]? = some a) (has : a.storage = none)
    (k : Kind) (m0 m1 : Nat) (v0 : Int) : Inv (resized s1 i k m0 m1 v0) := by
  refine (fillOwner_same _ _ v0).1.inv ⟨?_, ?_⟩
  · exact I1.core.alloc_set hi has (ownerOf_storage ..) (ownerOf_region ..) (ownerOf_inside ..)
  · have hg := I1.grad
    simp only [setObj, newStorage, gradSum_append, gradOf]
    cases k.active <;> simp <;> omega

/-- the three ways `resize` returns: cleared, allocated, or — its allocation having failed — released and empty -/
theorem resizeAt_cases {s s' : St} {i : Nat} {strict : Bool} {n0 n1 v0 : Int} (h : resizeAt s i strict n0 n1 v0 = .ok s') :
    ∃ a, s.pool[i]? = some a ∧
      ((resizeCheck a.kind strict n0 n1 = .ok none ∧ clearAt s i = .ok s') ∨
       (∃ m0 m1 s1, resizeCheck a.kind strict n0 n1 = .ok (some (m0, m1)) ∧ releaseAt s i = .ok s1 ∧
          (allocTick s1).2 = false ∧ s' = resized (allocTick s1).1 i a.kind m0 m1 v0) ∨
       (∃ m0 m1 s1, resizeCheck a.kind strict n0 n1 = .ok (some (m0, m1)) ∧ releaseAt s i = .ok s1 ∧
          (allocTick s1).2 = true ∧ s' = setObj (allocTick s1).1 i (blank a.kind))) := by
  unfold resizeAt at h
  cases hg : getObj s i with
  | error e => simp [hg] at h
  | ok a0 =>
    simp only [hg] at h
    refine ⟨a0, getObj_ok.mp hg, ?_⟩
    cases hc : resizeCheck a0.kind strict n0 n1 with
    | error e => simp [hc] at h
    | ok r =>
      cases r with
      | none => simp only [hc] at h; exact Or.inl ⟨rfl, h⟩
      | some pr =>
        obtain ⟨m0, m1⟩ := pr
        simp only [hc] at h
        cases hr : releaseAt s i with
        | error e => simp [hr] at h
        | ok s1 =>
          simp only [hr] at h
          cases ht : (allocTick s1).2 with
          | true => simp only [ht, if_true] at h; cases h; exact Or.inr (Or.inr ⟨m0, m1, s1, rfl, rfl, ht, rfl⟩)
          | false =>
            simp only [ht] at h
            cases h
            exact Or.inr (Or.inl ⟨m0, m1, s1, rfl, rfl, ht, rfl⟩)

theorem resizeAt_safe {s : St} {i : Nat} {strict : Bool} {n0 n1 v0 : Int} (I : Inv s) :
    Yields (resizeAt s i strict n0 n1 v0) Inv := by
  unfold resizeAt
  refine Yields.elim (getObj_yields s i) (fun _ h => h) fun a _ ha => ?_
  simp only
  refine Yields.elim (resizeCheck_yields a.kind strict n0 n1) (fun _ h => h) fun r _ _ => ?_
  cases r with
  | none => exact clearAt_safe I i
  | some pr =>
    obtain ⟨m0, m1⟩ := pr
    simp only
    obtain ⟨s1, h1, I1, hp, _⟩ := releaseAt_spec I ha
    have hi : (allocTick s1).1.pool[i]? = some (dropSto a) := by
      rw [(allocTick_same s1).pool, hp]; exact getElem?_set_self' ha
    have I2 := (allocTick_same s1).inv I1
    simp only [h1]
    split
    · exact setObj_none_inv I2 hi rfl rfl (fun _ h => nomatch h)
    · exact resized_inv I2 hi rfl a.kind m0 m1 v0

theorem resizeAt_spec {s s' : St} {i : Nat} {strict : Bool} {n0 n1 v0 : Int} {a : Obj} (I : Inv s)
    (ha : s.pool[i]? = some a) (h : resizeAt s i strict n0 n1 v0 = .ok s') :
    s'.pool = s.pool.set i (blank a.kind) ∨
    (∃ m0 m1, s'.pool = s.pool.set i (ownerOf a.kind s.heap.length m0 m1) ∧
       s'.heap[s.heap.length]? =
         some { nLinks := 1, freed := false, size := dataVolume a.kind m0 m1, active := a.kind.active } ∧
       s'.thrown = s.thrown) ∨
    (s'.pool = s.pool.set i (blank a.kind) ∧ s'.thrown = true) := by
  obtain ⟨a0, ha0, hc | ⟨m0, m1, s1, _, hr, hf, rfl⟩ | ⟨m0, m1, s1, _, hr, hf, rfl⟩⟩ := resizeAt_cases h
  · rw [ha] at ha0; cases ha0
    obtain ⟨s1, h1, _, hp, _⟩ := clearAt_spec I ha
    rw [hc.2] at h1; cases h1
    exact Or.inl hp
  · rw [ha] at ha0; cases ha0
    obtain ⟨s1', h1, _, hp, hl, ht⟩ := releaseAt_spec I ha
    rw [hr] at h1; cases h1
    have T := allocTick_same s1
    have F := fillOwner_same (setObj (newStorage (allocTick s1).1 (dataVolume a.kind m0 m1) a.kind.active).1 i
          (ownerOf a.kind (allocTick s1).1.heap.length m0 m1))
        (ownerOf a.kind (allocTick s1).1.heap.length m0 m1) v0
    refine Or.inr (Or.inl ⟨m0, m1, ?_, ?_, ?_⟩)
    · unfold resized; rw [F.1.pool]; simp [setObj, newStorage, hp, hl, T.heap, T.pool]
    · unfold resized; rw [F.1.heap]; simp [setObj, newStorage, ← hl, T.heap]
    · unfold resized; rw [F.2]; exact (allocTick_passed s1 hf).trans ht
  · rw [ha] at ha0; cases ha0
    obtain ⟨s1', h1, _, hp, _⟩ := releaseAt_spec I ha
    rw [hr] at h1; cases h1
    exact Or.inr (Or.inr ⟨by simp [setObj, (allocTick_same s1).pool, hp], allocTick_failed s1 hf⟩)

/-- a constructor whose allocation failed: the object that was being built (it holds nothing) is gone -/
theorem erase_thrown_inv {s0 s1 : St} {i : Nat} {a : Obj} {strict : Bool} {n0 n1 v0 : Int} (I0 : Inv s0)
    (ha : s0.pool[i]? = some a) (h : resizeAt s0 i strict n0 n1 v0 = .ok s1) (ht : s1.thrown = true)
    (h0 : s0.thrown = false) : Inv { s1 with pool := s1.pool.eraseIdx i } := by
  have hb : s1.pool[i]? = some (blank a.kind) := by
    rcases resizeAt_spec I0 ha h with hp | ⟨m0, m1, _, _, hth⟩ | ⟨hp, _⟩
    · rw [hp]; exact getElem?_set_self' ha
    · rw [hth, h0] at ht; cases ht
    · rw [hp]; exact getElem?_set_self' ha
  exact erase_none_inv ((resizeAt_safe I0).of_ok h) hb rfl

theorem newAt_safe {s : St} {k : Kind} {n0 n1 v0 : Int} (I : Inv s) (hs : s.thrown = false) :
    Yields (newAt s k n0 n1 v0) Inv := by
  have Ip := push_blank_inv I k
  have hget : (push s (blank k)).pool[s.pool.length]? = some (blank k) := by simp [push]
  unfold newAt
  refine Yields.elim (resizeAt_safe Ip) (fun _ h => h) fun s1 hr I1 => ?_
  simp only
  split
  · rename_i ht; exact erase_thrown_inv Ip hget hr ht hs
  · exact I1

/-- a constructor that resizes leaves one object more — cleared, or the packed owner of a Storage created by this call —
    or, its allocation having failed, none -/
theorem newAt_spec {s s' : St} {k : Kind} {n0 n1 v0 : Int} (I : Inv s) (h : newAt s k n0 n1 v0 = .ok s') :
    s'.pool = s.pool ++ [blank k] ∨
    (∃ m0 m1, s'.pool = s.pool ++ [ownerOf k s.heap.length m0 m1] ∧
       s'.heap[s.heap.length]? = some { nLinks := 1, freed := false, size := dataVolume k m0 m1, active := k.active }) ∨
    (s'.pool = s.pool ∧ s'.thrown = true) := by
  unfold newAt at h
  cases hr : resizeAt (push s (blank k)) s.pool.length (!k.isArray) n0 n1 v0 with
  | error e => rw [hr] at h; cases h
  | ok s1 =>
    have hsp := resizeAt_spec (push_blank_inv I k) (a := blank k) (by simp [push]) hr
    simp only [push, List.set_append_right _ _ (Nat.le_refl _), Nat.sub_self, List.set_cons_zero] at hsp
    simp only [hr] at h
    split at h
    · rename_i ht
      cases h
      refine Or.inr (Or.inr ⟨?_, ht⟩)
      show s1.pool.eraseIdx s.pool.length = s.pool
      rcases hsp with hp | ⟨_, _, hp, _⟩ | ⟨hp, _⟩ <;> rw [hp, eraseIdx_append_last]
    · rename_i ht
      cases h
      rcases hsp with hp | ⟨m0, m1, hp, hh, _⟩ | ⟨_, ht'⟩
      · exact Or.inl hp
      · exact Or.inr (Or.inl ⟨m0, m1, hp, hh⟩)
      · exact absurd ht' ht

theorem copyCtorAt_safe {s : St} (I : Inv s) (j : Nat) : Yields (copyCtorAt s j) Inv := by
  unfold copyCtorAt
  refine Yields.elim (getObj_yields s j) (fun _ h => h) fun b _ hb => ?_
  exact .of_total (linkNew_fits I (I.core.fits (List.mem_of_getElem? hb)))

abbrev viewObj (b : Obj) (v : ViewSpec) : Obj := viewObject b v

/-- the view constructor decides before it links: it is `linkNew` of a view that lies inside the extent of its
    source, or one of three rejections -/
theorem viewCtor_cases (s : St) (b : Obj) (v : ViewSpec) {r : Except Err St} (hr : viewCtor s b v = r) :
    (v.delta.toNat + extentOf (viewObj b v) ≤ extentOf b ∧ r = linkNew s (viewObj b v)) ∨
    r = .error .invalidDimension ∨ r = .error .invalidOperation ∨ r = .error .badOp := by
  unfold viewCtor at hr
  split at hr
  · exact Or.inr (Or.inl hr.symm)
  · split at hr
    · exact Or.inr (Or.inr (Or.inl hr.symm))
    · split at hr
      · exact Or.inr (Or.inr (Or.inr hr.symm))
      · simp only at hr
        split at hr
        · rename_i hc; exact Or.inl ⟨hc, hr.symm⟩
        · exact Or.inr (Or.inr (Or.inr hr.symm))

theorem viewCtor_ok {s s' : St} {b : Obj} {v : ViewSpec} (h : viewCtor s b v = .ok s') :
    linkNew s (viewObj b v) = .ok s' ∧ v.delta.toNat + extentOf (viewObj b v) ≤ extentOf b := by
  rcases viewCtor_cases s b v h with ⟨hc, hl⟩ | hl | hl | hl
  · exact ⟨hl.symm, hc⟩
  · cases hl
  · cases hl
  · cases hl

/-- a view that stays within the extent of its source stays within the source's allocation -/
theorem fits_view {h : List Sto} {b : Obj} (F : Fits h b) {v : ViewSpec}
    (hc : v.delta.toNat + extentOf (viewObj b v) ≤ extentOf b) : Fits h (viewObj b v) := by
  refine ⟨F.scope, fun σ hσ => ?_⟩
  obtain ⟨r, hr, hf, hreg, hin⟩ := F.held σ hσ
  refine ⟨r, hr, hf, hreg, ?_⟩
  unfold Inside at hin ⊢
  have : (viewObj b v).off = b.off + v.delta.toNat := rfl
  omega

theorem viewCtor_safe {s : St} {b : Obj} (I : Inv s) (hm : b ∈ s.pool) (v : ViewSpec) : Yields (viewCtor s b v) Inv := by
  rcases viewCtor_cases s b v rfl with ⟨hc, hl⟩ | hl | hl | hl
  · rw [hl]; exact .of_total (linkNew_fits I (fits_view (I.core.fits hm) hc))
  · rw [hl]; exact .reject (by decide)
  · rw [hl]; exact .reject (by decide)
  · rw [hl]; exact .reject (by decide)

theorem viewAt_safe {s : St} (I : Inv s) (j : Nat) (f : ViewFn) : Yields (viewAt s j f) Inv := by
  unfold viewAt
  refine Yields.elim (getObj_yields s j) (fun _ h => h) fun b _ hb => ?_
  simp only
  refine Yields.elim (evalView_yields b f) (fun _ h => h) fun r _ _ => ?_
  cases r with
  | empty k => exact push_blank_inv I k
  | ctor v => exact viewCtor_safe I (List.mem_of_getElem? hb) v

/-- `a.link(b)` keeps the invariant and, a ≠ b, leaves `a` with `b`'s (data pointer, storage, extents, strides) -/
theorem linkAt_yields {s : St} (I : Inv s) (i j : Nat) :
    Yields (linkAt s i j) fun s' => Inv s' ∧
      ∀ b, s.pool[j]? = some b → i ≠ j → s'.pool = s.pool.set i b ∧ b.region ≠ .null := by
  unfold linkAt
  refine Yields.elim (getObj_yields s i) (fun _ h => h) fun a _ ha => ?_
  refine Yields.elim (getObj_yields s j) (fun _ h => h) fun b _ hb => ?_
  simp only
  split
  · exact .reject (by decide)
  · split
    · exact .reject (by decide)
    · rename_i hnull
      obtain ⟨s1, hc, I1, hp, _⟩ := clearAt_spec I ha
      have hi : s1.pool[i]? = some (blank a.kind) := by rw [hp]; exact getElem?_set_self' ha
      simp only [hc]
      refine Yields.elim (getObj_yields s1 j) (fun _ h => h) fun b1 _ hb1 => ?_
      have F := I1.core.fits (List.mem_of_getElem? hb1)
      -- `b1` is read after `clear()`: it is still `b` unless `a.link(a)`
      have hpool : ∀ b', s.pool[j]? = some b' → i ≠ j → s1.pool.set i b1 = s.pool.set i b' ∧ b'.region ≠ .null := by
        intro b' hb' hij
        rw [hb] at hb'; cases hb'
        rw [hp, List.getElem?_set_ne hij, hb] at hb1; cases hb1
        exact ⟨by rw [hp, List.set_set], hnull⟩
      simp only
      cases hs : b1.storage with
      | none => exact ⟨setObj_none_inv I1 hi rfl hs F.scope, hpool⟩
      | some σ =>
        obtain ⟨r, hr, hf, _⟩ := F.held σ hs
        simp only [addLink_live hr hf]
        refine ⟨inv_link I1 hr hf hs (fun τ => ?_) (I1.core.fits_set F i), hpool⟩
        have := refs_set (σ := τ) (x := b1) hi
        rw [wt_none rfl] at this; exact this

theorem softLinkAt_safe {s : St} (I : Inv s) (j : Nat) : Yields (softLinkAt s j) Inv := by
  unfold softLinkAt
  refine Yields.elim (getObj_yields s j) (fun _ h => h) fun b _ hb => ?_
  exact push_inv I rfl (I.inScope b (List.mem_of_getElem? hb))

/-- `Array(Type*, dims)` / `FixedArray::diag_matrix()`: an object over the external block that holds nothing is appended -/
theorem newExternalAt_yields (s : St) (x off : Nat) (n : Int) (dm : Bool) :
    Yields (newExternalAt s x off n dm) fun s' => ∃ o, s' = push s o ∧ o.region = .ext x ∧ o.storage = none := by
  unfold newExternalAt
  split
  · exact .reject (by decide)
  · split
    · exact .reject (by decide)
    · split
      · exact ⟨_, rfl, rfl, rfl⟩
      · exact .reject (by decide)

theorem swapAt_safe {s : St} (I : Inv s) (i j : Nat) : Yields (swapAt s i j) Inv := by
  unfold swapAt
  refine Yields.elim (getObj_yields s i) (fun _ h => h) fun a _ ha => ?_
  refine Yields.elim (getObj_yields s j) (fun _ h => h) fun b _ hb => ?_
  simp only
  split
  · exact .reject (by decide)
  · exact swapObjs_inv I ha hb

/-- the stores of `a = b` once the target has its extents: nothing, if `resize` threw or left no element; otherwise
    the right-hand side is read first (into a copy with a Storage of its own, when it aliases the target) -/
def assignStore (s1 : St) (i j : Nat) : Except Err St :=
  match getObj s1 i, getObj s1 j with
  | .error e, _ => .error e
  | _, .error e => .error e
  | .ok a1, .ok b1 =>
    if s1.thrown then .ok s1
    else if a1.len = 0 then .ok s1
    else if aliased a1 b1 ∧ (allocTick s1).2 then .ok (allocTick s1).1
    else
      let s1 := if aliased a1 b1 then (allocTick s1).1 else s1
      match readView s1 b1 with
      | .error e => .error e
      | .ok vs => writeCells s1 a1.region (cells a1) vs

/-- `operator=(const X&)` between objects of one class: `resize` of an empty target or the test of the extents,
    then the stores -/
theorem assignCopyAt_eq {s : St} {i j : Nat} {a b : Obj} (ha : s.pool[i]? = some a) (hb : s.pool[j]? = some b)
    (hk : a.kind = b.kind) :
    assignCopyAt s i j =
      (if a.len = 0 then resizeAt s i false (dimsOf b).1 (dimsOf b).2 0
       else if ¬ sameDims a b then .error .sizeMismatch else .ok s).bind fun s1 => assignStore s1 i j := by
  unfold assignCopyAt assignStore Except.bind
  rw [getObj_ok.mpr ha, getObj_ok.mpr hb]
  simp only [hk, ne_eq, not_true_eq_false, if_false]
  cases (if a.len = 0 then resizeAt s i false (dimsOf b).1 (dimsOf b).2 0
    else if ¬sameDims a b = true then Except.error Err.sizeMismatch else Except.ok s) with
  | error e => rfl
  | ok s1 => rfl

theorem assignStore_yields (s1 : St) (i j : Nat) :
    Yields (assignStore s1 i j) fun s' => SameLinks s1 s' ∧ (s1.thrown = true → s' = s1) := by
  unfold assignStore
  refine Yields.elim (getObj_yields s1 i) (fun _ h => h) fun a1 _ _ => ?_
  refine Yields.elim (getObj_yields s1 j) (fun _ h => h) fun b1 _ _ => ?_
  simp only
  split
  · exact ⟨.refl s1, fun _ => rfl⟩
  · rename_i hnt
    split
    · exact ⟨.refl s1, fun _ => rfl⟩
    · split
      · exact ⟨allocTick_same s1, fun ht => absurd ht hnt⟩
      · have T : SameLinks s1 (if aliased a1 b1 = true then (allocTick s1).1 else s1) := by
          split
          · exact allocTick_same s1
          · exact .refl s1
        refine Yields.elim (readView_yields _ b1) (fun _ h => h) fun vs _ _ => ?_
        exact (writeCells_yields _ _ _ _).mono fun s' _ h => ⟨T.trans h, fun ht => absurd ht hnt⟩

/-- where the target of `a = b` ends up -/
inductive Owns (s s' : St) (i j : Nat) (a b : Obj) : Prop
  /-- the values were stored through the target's existing view; no object and no count changed -/
  | inPlace (hlen : a.len ≠ 0) (hp : s'.pool = s.pool) (hh : s'.heap = s.heap)
  /-- empty := empty : the target is the cleared array -/
  | emptied (ha : a.len = 0) (hp : s'.pool = s.pool.set i (blank a.kind))
  /-- the target was empty and now owns a Storage created by this assignment -/
  | fresh (o : Obj) (r : Sto) (ha : a.len = 0) (hp : s'.pool = s.pool.set i o)
      (hos : o.storage = some s.heap.length) (hor : o.region = .sto s.heap.length)
      (hh : s'.heap[s.heap.length]? = some r) (hone : r.nLinks = 1) (hfr : r.freed = false)
  /-- move assignment swapped: the source owned an unshared Storage, which the target now holds, and the
      source holds what the target had -/
  | stolen (σ : Nat) (r : Sto) (hb : b.storage = some σ) (hr : s.heap[σ]? = some r) (hone : r.nLinks = 1)
      (hl : a.len = 0 ∨ ∃ τ rt, a.storage = some τ ∧ s.heap[τ]? = some rt ∧ rt.nLinks = 1)
      (hp : s'.pool = (s.pool.set i b).set j a) (hh : s'.heap = s.heap)
  /-- the statement ended by throwing `std::bad_alloc` out of the `resize` of an empty target: the target is the
      cleared array -/
  | failed (ht : s'.thrown = true) (ha : a.len = 0) (hp : s'.pool = s.pool.set i (blank a.kind))

theorem assignCopyAt_yields {s : St} {i j : Nat} {a b : Obj} (I : Inv s)
    (ha : s.pool[i]? = some a) (hb : s.pool[j]? = some b) :
    Yields (assignCopyAt s i j) fun s' => Inv s' ∧ Owns s s' i j a b := by
  by_cases hk : a.kind = b.kind
  · rw [assignCopyAt_eq ha hb hk]
    by_cases hal : a.len = 0
    · rw [if_pos hal]
      refine Yields.elim (resizeAt_safe I) (fun _ h => h) fun s1 hr I1 => ?_
      refine (assignStore_yields s1 i j).mono fun s' _ ⟨S, hth⟩ => ⟨S.inv I1, ?_⟩
      rcases resizeAt_spec I ha hr with hp | ⟨m0, m1, hp, hh, _⟩ | ⟨hp, ht⟩
      · exact .emptied hal (by rw [S.pool]; exact hp)
      · exact .fresh _ _ hal (by rw [S.pool]; exact hp) (ownerOf_storage ..) (ownerOf_region ..)
          (by rw [S.heap]; exact hh) rfl rfl
      · cases hth ht; exact .failed ht hal hp
    · rw [if_neg hal]
      split
      · exact .reject (by decide)
      · exact (assignStore_yields s i j).mono fun s' _ ⟨S, _⟩ => ⟨S.inv I, .inPlace hal S.pool S.heap⟩
  · have : assignCopyAt s i j = .error .badOp := by simp [assignCopyAt, getObj_ok.mpr ha, getObj_ok.mpr hb, hk]
    rw [this]; exact .reject (by decide)

theorem ownsUnshared_spec {s : St} {o : Obj} (I : Inv s) (hm : o ∈ s.pool) :
    ∃ b, ownsUnshared s o = .ok b ∧ (b = true → ∃ σ r, o.storage = some σ ∧ s.heap[σ]? = some r ∧ r.nLinks = 1) := by
  unfold ownsUnshared
  cases ho : o.storage with
  | none => exact ⟨false, rfl, nofun⟩
  | some σ =>
    obtain ⟨r, hr, hf, _⟩ := I.objs o hm σ ho
    exact ⟨r.nLinks == 1, by simp [nLinksOf, hr, hf], fun h => ⟨σ, r, rfl, hr, by simpa using h⟩⟩

/-- `assign_owns`: after `a = b` (copy or move, repaired code) the target is where it was, or empty, or owns a
    Storage that is new or was the source's own unshared one -/
theorem assignMoveAt_yields {s : St} {i j : Nat} {a b : Obj} (I : Inv s)
    (ha : s.pool[i]? = some a) (hb : s.pool[j]? = some b) :
    Yields (assignMoveAt s i j) fun s' => Inv s' ∧ Owns s s' i j a b := by
  have C := assignCopyAt_yields I ha hb
  obtain ⟨ba, hba, wa⟩ := ownsUnshared_spec I (List.mem_of_getElem? ha)
  obtain ⟨bb, hbb, wb⟩ := ownsUnshared_spec I (List.mem_of_getElem? hb)
  unfold assignMoveAt
  rw [getObj_ok.mpr ha, getObj_ok.mpr hb]
  simp only
  split
  · exact .reject (by decide)
  · split
    · exact C
    · have hl : ∃ bl, (if a.len = 0 then (Except.ok true : Except Err Bool) else ownsUnshared s a) = .ok bl ∧
          (bl = true → a.len = 0 ∨ ∃ τ rt, a.storage = some τ ∧ s.heap[τ]? = some rt ∧ rt.nLinks = 1) := by
        split
        · rename_i hal; exact ⟨true, rfl, fun _ => Or.inl hal⟩
        · exact ⟨ba, hba, fun h => Or.inr (wa h)⟩
      obtain ⟨bl, hbl, wl⟩ := hl
      rw [hbl, hbb]
      cases bl with
      | false => exact C
      | true =>
        cases bb with
        | false => exact C
        | true =>
          obtain ⟨σ, r, h1, h2, h3⟩ := wb rfl
          simp only
          split
          · exact ⟨swapObjs_inv I ha hb, .stolen σ r h1 h2 h3 (wl rfl) rfl rfl⟩
          · exact .reject (by decide)

theorem assignCopyAt_safe {s : St} (I : Inv s) (i j : Nat) : Yields (assignCopyAt s i j) Inv := by
  cases ha : s.pool[i]? with
  | none => exact (show assignCopyAt s i j = .error .badOp by simp [assignCopyAt, getObj, ha]) ▸ .reject (by decide)
  | some a =>
    cases hb : s.pool[j]? with
    | none => exact (show assignCopyAt s i j = .error .badOp by simp [assignCopyAt, getObj, ha, hb]) ▸ .reject (by decide)
    | some b => exact (assignCopyAt_yields I ha hb).mono fun _ _ h => h.1

theorem assignMoveAt_safe {s : St} (I : Inv s) (i j : Nat) : Yields (assignMoveAt s i j) Inv := by
  cases ha : s.pool[i]? with
  | none => exact (show assignMoveAt s i j = .error .badOp by simp [assignMoveAt, getObj, ha]) ▸ .reject (by decide)
  | some a =>
    cases hb : s.pool[j]? with
    | none => exact (show assignMoveAt s i j = .error .badOp by simp [assignMoveAt, getObj, ha, hb]) ▸ .reject (by decide)
    | some b => exact (assignMoveAt_yields I ha hb).mono fun _ _ h => h.1

theorem owns_not_external {s s' : St} {i j : Nat} {a b a' : Obj} (I : Inv s) (O : Owns s s' i j a b)
    (ha : s.pool[i]? = some a) (hb : s.pool[j]? = some b) (hij : i ≠ j)
    (ha' : s'.pool[i]? = some a') {x : Nat} (hx : a'.region = .ext x) : a' = a ∧ a.region = .ext x := by
  cases O with
  | inPlace hlen hp hh => rw [hp, ha] at ha'; cases ha'; exact ⟨rfl, hx⟩
  | emptied hal hp => rw [hp, getElem?_set_self' ha] at ha'; cases ha'; simp [blank] at hx
  | fresh o r hal hp hos hor hh hone hfr => rw [hp, getElem?_set_self' ha] at ha'; cases ha'; rw [hor] at hx; cases hx
  | stolen σ r hbs hr hone hl hp hh =>
    have : ((s.pool.set i b).set j a)[i]? = some b := by
      rw [List.getElem?_set_ne (Ne.symm hij)]; exact getElem?_set_self' ha
    rw [hp, this] at ha'; cases ha'
    obtain ⟨_, _, _, hreg, _⟩ := I.objs b (List.mem_of_getElem? hb) σ hbs
    rw [hreg] at hx; cases hx
  | failed ht hal hp => rw [hp, getElem?_set_self' ha] at ha'; cases ha'; simp [blank] at hx

/-- after the assignment the target and the source look into the same allocation only if they already did and
    the target was written in place -/
theorem owns_apart_from_source {s s' : St} {i j : Nat} {a b a' b' : Obj} (I : Inv s) (O : Owns s s' i j a b)
    (ha : s.pool[i]? = some a) (hb : s.pool[j]? = some b) (hij : i ≠ j)
    (ha' : s'.pool[i]? = some a') (hb' : s'.pool[j]? = some b')
    (hla : a'.len ≠ 0) (hlb : b'.len ≠ 0) (hreg : a'.region = b'.region) :
    a' = a ∧ b' = b ∧ a.region = b.region := by
  cases O with
  | inPlace hlen hp hh =>
    rw [hp, ha] at ha'; rw [hp, hb] at hb'; cases ha'; cases hb'; exact ⟨rfl, rfl, hreg⟩
  | emptied hal hp => rw [hp, getElem?_set_self' ha] at ha'; cases ha'; exact absurd rfl hla
  | fresh o r hal hp hos hor hh hone hfr =>
    rw [hp, getElem?_set_self' ha] at ha'; cases ha'
    rw [hp, List.getElem?_set_ne hij, hb] at hb'; cases hb'
    have := I.inScope b (List.mem_of_getElem? hb) s.heap.length (by rw [← hreg]; exact hor)
    omega
  | stolen σ r hbs hr hone hl hp hh =>
    have e1 : ((s.pool.set i b).set j a)[i]? = some b := by
      rw [List.getElem?_set_ne (Ne.symm hij)]; exact getElem?_set_self' ha
    have e2 : ((s.pool.set i b).set j a)[j]? = some a := by
      have : (s.pool.set i b)[j]? = some b := by rw [List.getElem?_set_ne hij]; exact hb
      exact getElem?_set_self' this
    rw [hp, e1] at ha'; cases ha'
    rw [hp, e2] at hb'; cases hb'
    -- the source (now holding the target's old quadruple) is not empty, so the target owned an unshared τ ≠ σ
    rcases hl with hl | ⟨τ, rt, t1, t2, t3⟩
    · exact absurd hl hlb
    · exfalso
      obtain ⟨rb, hrb, hfb, hregb, _⟩ := I.objs b (List.mem_of_getElem? hb) σ hbs
      obtain ⟨ra, hra, hfa, hrega, _⟩ := I.objs a (List.mem_of_getElem? ha) τ t1
      rw [hregb, hrega] at hreg
      cases hreg
      rw [hr] at hrb; cases hrb
      have := two_refs hij ha hb t1 hbs
      have := (I.counts σ r hr hfb).1
      omega
  | failed ht hal hp => rw [hp, getElem?_set_self' ha] at ha'; cases ha'; exact absurd rfl hla

theorem newSumAt_safe {s : St} (I : Inv s) (hs : s.thrown = false) (j1 j2 : Nat) : Yields (newSumAt s j1 j2) Inv := by
  unfold newSumAt
  refine Yields.elim (getObj_yields s j1) (fun _ h => h) fun b _ _ => ?_
  refine Yields.elim (getObj_yields s j2) (fun _ h => h) fun c _ _ => ?_
  simp only
  split
  · exact .reject (by decide)
  · split
    · exact .reject (by decide)
    · refine Yields.elim (readView_yields s b) (fun _ h => h) fun vb _ _ => ?_
      refine Yields.elim (readView_yields s c) (fun _ h => h) fun vc _ _ => ?_
      have Ip := push_blank_inv I b.kind
      have hget : (push s (blank b.kind)).pool[s.pool.length]? = some (blank b.kind) := by simp [push]
      simp only
      refine Yields.elim (resizeAt_safe Ip) (fun _ h => h) fun s1 hrs I1 => ?_
      simp only
      split
      · rename_i ht; exact erase_thrown_inv Ip hget hrs ht hs
      · refine Yields.elim (getObj_yields _ _) (fun _ h => h) fun a1 _ _ => ?_
        exact (writeCells_yields _ _ _ _).mono fun _ _ h => h.inv I1

theorem assignListAt_safe {s : St} (I : Inv s) (i n : Nat) (v0 : Int) : Yields (assignListAt s i n v0) Inv := by
  unfold assignListAt
  refine Yields.elim (getObj_yields s i) (fun _ h => h) fun a _ _ => ?_
  simp only
  split
  · exact .reject (by decide)
  · split
    · exact resizeAt_safe I
    · split
      · exact .reject (by decide)
      · exact (writeCells_yields _ _ _ _).mono fun _ _ h => h.inv I

theorem writeAt_safe {s : St} (I : Inv s) (i k : Nat) (v : Int) : Yields (writeAt s i k v) Inv := by
  unfold writeAt
  refine Yields.elim (getObj_yields s i) (fun _ h => h) fun a _ _ => ?_
  simp only
  split
  · exact (writeCell_yields s a.region _ v).mono fun _ _ h => h.1.inv I
  · exact .reject (by decide)

/-- the environment writing to, or ending, external block `x`: no link is touched, and no allocation but `x` -/
def EnvStep (s s' : St) (x : Nat) : Prop :=
  SameLinks s s' ∧ s'.smem = s.smem ∧ ∀ y, x ≠ y → s'.exts[y]? = s.exts[y]?

theorem xwriteAt_yields (s : St) (x k : Nat) (v : Int) : Yields (xwriteAt s x k v) fun s' => EnvStep s s' x := by
  unfold xwriteAt
  split
  · exact .reject (by decide)
  · split
    · exact ⟨⟨rfl, rfl, rfl, rfl, rfl⟩, rfl, fun _ hy => List.getElem?_set_ne hy⟩
    · exact .reject (by decide)

theorem xendAt_yields (s : St) (x : Nat) : Yields (xendAt s x) fun s' => EnvStep s s' x := by
  unfold xendAt
  split
  · exact .reject (by decide)
  · split
    · exact ⟨⟨rfl, rfl, rfl, rfl, rfl⟩, rfl, fun _ hy => List.getElem?_set_ne hy⟩
    · exact .reject (by decide)

/-- in a state satisfying the invariant every operation either returns — normally, or by throwing `std::bad_alloc`
    out of a failed allocation — in a state satisfying it, or rejects without having touched a deleted Storage
    object or removed a link that is not there: `delete this` cannot run twice, the `invalid_operation` of
    `remove_link` is unreachable -/
theorem stepCore_safe {s : St} (I : Inv s) (hs : s.thrown = false) (op : Op) : Yields (stepCore s op) Inv := by
  cases op with
  | xnew n v0 => exact yields_ok.mpr (SameLinks.inv (s := s) ⟨rfl, rfl, rfl, rfl, rfl⟩ I)
  | xwrite x k v => exact (xwriteAt_yields s x k v).mono fun _ _ h => h.1.inv I
  | xend x => exact (xendAt_yields s x).mono fun _ _ h => h.1.inv I
  | new k n0 n1 v0 => exact newAt_safe I hs
  | newEmpty k => exact yields_ok.mpr (push_blank_inv I k)
  | newExternal x off n dm =>
    refine (newExternalAt_yields s x off n dm).mono fun s' _ ⟨o, hs', hr, ho⟩ => ?_
    rw [hs']; exact push_inv I ho (fun _ h => by rw [hr] at h; cases h)
  | copyCtor j => exact copyCtorAt_safe I j
  | view j f => exact viewAt_safe I j f
  | softLink j => exact softLinkAt_safe I j
  | link i j => exact (linkAt_yields I i j).mono fun _ _ h => h.1
  | assignCopy i j => exact assignCopyAt_safe I i j
  | assignMove i j => exact assignMoveAt_safe I i j
  | resize i strict n0 n1 v0 => exact resizeAt_safe I
  | clear i => exact clearAt_safe I i
  | destroy i => exact destroyAt_safe I i
  | write i k v => exact writeAt_safe I i k v
  | swap i j => exact swapAt_safe I i j
  | newSum j1 j2 => exact newSumAt_safe I hs j1 j2
  | newList k n0 n1 v0 =>
    show Yields (newListAt s k n0 n1 v0) Inv
    unfold newListAt
    split
    · exact .reject (by decide)
    · exact newAt_safe I hs
  | assignList i n v0 => exact assignListAt_safe I i n v0
  | failNext k => exact yields_ok.mpr (SameLinks.inv (s := s) ⟨rfl, rfl, rfl, rfl, rfl⟩ I)

theorem step_safe {s : St} (I : Inv s) (op : Op) : Yields (step s op) Inv :=
  stepCore_safe (s := { s with thrown := false }) (SameLinks.inv (s := s) ⟨rfl, rfl, rfl, rfl, rfl⟩ I) rfl op

theorem inv_step {s s' : St} (op : Op) (I : Inv s) (h : step s op = .ok s') : Inv s' := (step_safe I op).of_ok h

theorem inv_stepOrStay {s : St} (op : Op) (I : Inv s) : Inv (stepOrStay s op) := by
  unfold stepOrStay
  cases h : step s op with
  | error e => exact I
  | ok s' => exact inv_step op I h

theorem inv_run (ops : List Op) {s : St} (I : Inv s) : Inv (run s ops) := by
  induction ops generalizing s with
  | nil => exact I
  | cons op ops ih => exact ih (inv_stepOrStay op I)

theorem gradSum_all_freed : ∀ (h : List Sto), (∀ r, r ∈ h → r.freed = true) → gradSum h = 0 := by
  intro h
  induction h with
  | nil => intro _; rfl
  | cons r h ih =>
    intro hall
    have h1 : gradOf r = 0 := by simp [gradOf, hall r (by simp)]
    have h2 := ih (fun r' hm => hall r' (by simp [hm]))
    simp only [gradSum, List.map_cons, List.sum_cons] at h2 ⊢
    omega

/-- empty pool ⇒ every Storage ever created has been deleted ⇒ created − deleted = 0, no gradient stays registered -/
theorem no_leak {s : St} (I : Inv s) (hp : s.pool = []) :
    (∀ (σ : Nat) (r : Sto), s.heap[σ]? = some r → r.freed = true) ∧ nStorageObjects s = 0 ∧ s.gradReg = 0 := by
  have hall : ∀ (σ : Nat) (r : Sto), s.heap[σ]? = some r → r.freed = true := by
    intro σ r hr
    cases hf : r.freed with
    | true => rfl
    | false =>
      have := I.counts σ r hr hf
      rw [hp, refs_nil] at this
      omega
  have hmem : ∀ r, r ∈ s.heap → r.freed = true := by
    intro r hm
    obtain ⟨σ, hσ⟩ := List.mem_iff_getElem?.mp hm
    exact hall σ r hσ
  refine ⟨hall, ?_, ?_⟩
  · have hc : s.heap.countP (fun r => r.freed) = s.heap.length := List.countP_eq_length.mpr hmem
    have h1 := I.created
    have h2 := I.deleted
    unfold nStorageObjects
    omega
  · rw [I.grad]; exact gradSum_all_freed _ hmem

/-! ### values: a write shows only through views of the written allocation -/

theorem readCell_congr {s s' : St} {r : Region} (c : Nat)
    (hh : s'.heap = s.heap)
    (hs : ∀ σ, r = .sto σ → s'.smem[σ]? = s.smem[σ]?)
    (he : ∀ x, r = .ext x → s'.exts[x]? = s.exts[x]?) :
    readCell s' r c = readCell s r c := by
  unfold readCell
  cases r with
  | null => rfl
  | sto σ => simp only [hh, hs σ rfl]
  | ext x => simp only [he x rfl]

theorem readCells_congr {s s' : St} {r : Region}
    (hh : s'.heap = s.heap)
    (hs : ∀ σ, r = .sto σ → s'.smem[σ]? = s.smem[σ]?)
    (he : ∀ x, r = .ext x → s'.exts[x]? = s.exts[x]?) :
    ∀ cs, readCells s' r cs = readCells s r cs := by
  intro cs
  induction cs with
  | nil => rfl
  | cons c cs ih =>
    unfold readCells
    rw [readCell_congr _ hh hs he, ih]

theorem readView_congr {s s' : St} {o : Obj}
    (hh : s'.heap = s.heap)
    (hs : ∀ σ, o.region = .sto σ → s'.smem[σ]? = s.smem[σ]?)
    (he : ∀ x, o.region = .ext x → s'.exts[x]? = s.exts[x]?) :
    readView s' o = readView s o := readCells_congr hh hs he _

theorem read_after_write_elsewhere {s s' : St} {o : Obj} {r : Region} {c : Nat} {v : Int}
    (h : writeCell s r c v = .ok s') (hne : o.region ≠ r) : readView s' o = readView s o := by
  obtain ⟨h1, h2, h3⟩ := (writeCell_yields s r c v).of_ok h
  refine readView_congr h1.heap ?_ ?_
  · intro σ hσ; exact h2 σ (by rw [← hσ]; exact Ne.symm hne)
  · intro x hx; exact h3 x (by rw [← hx]; exact Ne.symm hne)

theorem read_after_env {s s' : St} {o : Obj} {x : Nat} (hne : o.region ≠ .ext x)
    (h : (∃ k v, xwriteAt s x k v = .ok s') ∨ xendAt s x = .ok s') : readView s' o = readView s o := by
  have E : EnvStep s s' x := by
    rcases h with ⟨k, v, h⟩ | h
    · exact (xwriteAt_yields s x k v).of_ok h
    · exact (xendAt_yields s x).of_ok h
  refine readView_congr E.1.heap (fun σ _ => by rw [E.2.1]) fun y hy => ?_
  exact E.2.2 y (fun e => hne (by rw [hy, e]))

theorem stepOrStay_rejected {s : St} {op : Op} {e : Err} (h : step s op = .error e) : stepOrStay s op = s := by
  unfold stepOrStay; rw [h]

theorem run_skip_rejected {s : St} (ops1 ops2 : List Op) {op : Op} {e : Err}
    (h : step (run s ops1) op = .error e) : run s (ops1 ++ op :: ops2) = run s (ops1 ++ ops2) := by
  have hs := stepOrStay_rejected h
  unfold run at hs ⊢
  rw [List.foldl_append, List.foldl_append, List.foldl_cons, hs]

theorem St.ext' {s t : St} (h1 : s.heap = t.heap) (h2 : s.smem = t.smem) (h3 : s.exts = t.exts) (h4 : s.pool = t.pool)
    (h5 : s.created = t.created) (h6 : s.deleted = t.deleted) (h7 : s.gradReg = t.gradReg)
    (h8 : s.failIn = t.failIn) (h9 : s.thrown = t.thrown) : s = t := by
  cases s; cases t; simp_all

/-- an object built by a linking constructor (copy construction, any view) and destroyed again — a by-value
    parameter, a temporary slice, the local copy inside `T()` — leaves the state exactly as it was: the link it took
    is the link it gives back, nothing is released -/
theorem linkNew_destroy_roundtrip {s s1 s2 : St} {o : Obj} (I : Inv s) (F : Fits s.heap o) (h1 : linkNew s o = .ok s1)
    (h2 : destroyAt s1 s.pool.length = .ok s2) : s2 = s := by
  unfold linkNew at h1
  unfold destroyAt releaseAt getObj at h2
  cases ho : o.storage with
  | none =>
    simp only [ho] at h1; cases h1
    simp [push, ho] at h2
    subst h2
    exact St.ext' rfl rfl rfl (eraseIdx_append_last s.pool o) rfl rfl rfl rfl rfl
  | some σ =>
    simp only [ho] at h1
    obtain ⟨r, hr, hf, _, _⟩ := F.held σ ho
    have hpos := (I.counts σ r hr hf).2
    unfold addLink at h1
    simp only [hr, hf] at h1
    simp at h1; subst h1
    have hσ : σ < s.heap.length := by
      rcases List.getElem?_eq_some_iff.mp hr with ⟨hlt, _⟩; exact hlt
    have hne : r.nLinks + 1 ≠ 0 := by omega
    have hne' : ¬ r.nLinks = 0 := by omega
    simp [push, ho, removeLink, hσ, hne', setObj] at h2
    subst h2
    have hback : s.heap.set σ { nLinks := r.nLinks, freed := false, size := r.size, active := r.active } = s.heap := by
      have : ({ nLinks := r.nLinks, freed := false, size := r.size, active := r.active } : Sto) = r := by
        cases r; simp at hf ⊢; exact hf
      rw [this]; exact list_set_same hr
    -- the count goes back to `r.nLinks`, the appended object is erased; no other component was touched
    exact St.ext' (by simp [hback]) rfl rfl (by simp [eraseIdx_append_last]) rfl rfl rfl rfl rfl

end Adept.Storage
