import AdeptProofs.Lemmas.TapeDefs
import AdeptProofs.Lemmas.Basic
/-!
Law-free lemmas for C02 / C13: the ORDER of the arithmetic operations is part of the statement.

Nothing in this file assumes an algebraic law.  The carrier `R` has the four operations `+ * 0 1` the model runs on
(`AdeptModel/Tape.lean`) and, for the reverse routines, the zero test `nz : R → Bool` (the C++ comparison `a != 0.0`),
about which nothing is assumed either.  Two results computed by the model are *equal* here only if they are the same
expression tree of operations, i.e. bit for bit the same on IEEE doubles.

Three notions carry the file.  `Writes cell E P o o'`: the buffer `o'` is `o` with the table `E` written to the cells of
the index set `P` (so a routine is specified by the set it writes, and routines that write the same set agree).
`lanewise nl f`: a kernel that treats the lanes `< nl` of the multipass buffer independently.  `revVal`: what the
reverse routines as compiled leave in a cell, which becomes the unit-seeded adjoint pass as soon as the block-wide zero
flag is unobservable (`kernelRevB_lanewise`).  The ring layer (`Lemmas/Tape.lean`) is obtained from this one.
-/
-- lemmas of `LF` are stated under all four operations although most use fewer
set_option linter.unusedSectionVars false
namespace Adept.Tape

section Cells
variable {R : Type} [Zero R]

theorem rd_set_lt (g : Vec R) (i k : Nat) (v : R) (hi : i < g.length) :
    rd (g.set i v) k = if k = i then v else rd g k := by
  unfold rd
  by_cases hk : k = i
  · subst hk
    simp [List.getD_eq_getElem?_getD, hi]
  · have hk' : i ≠ k := fun h => hk h.symm
    simp [List.getD_eq_getElem?_getD, List.getElem?_set_ne hk', hk]

theorem rd_set_ne (g : Vec R) (i k : Nat) (v : R) (hk : k ≠ i) :
    rd (g.set i v) k = rd g k := by
  unfold rd
  have hk' : i ≠ k := fun h => hk h.symm
  simp [List.getD_eq_getElem?_getD, List.getElem?_set_ne hk']

theorem rd_set_self (g : Vec R) (i : Nat) (v : R) (hi : i < g.length) :
    rd (g.set i v) i = v := by
  rw [rd_set_lt g i i v hi, if_pos rfl]

theorem rd_replicate_zero (N k : Nat) : rd (List.replicate N (0 : R)) k = 0 := by
  unfold rd
  by_cases hk : k < N
  · simp [List.getD_eq_getElem?_getD, hk]
  · simp [List.getD_eq_getElem?_getD, hk]

theorem rd_eq_getElem (g : Vec R) (i : Nat) (hi : i < g.length) : rd g i = g[i] := by
  unfold rd
  simp [List.getD_eq_getElem?_getD, hi]

end Cells

theorem getD_eq_getElem {α : Type} (l : List α) (d : α) {i : Nat} (hi : i < l.length) : l.getD i d = l[i] := by
  simp [List.getD_eq_getElem?_getD, hi]

theorem getD_set_self {α : Type} (l : List α) (i : Nat) (v d : α) (hi : i < l.length) :
    (l.set i v).getD i d = v := by
  simp [List.getD_eq_getElem?_getD, hi]

theorem getD_set_ne {α : Type} (l : List α) (i k : Nat) (v d : α) (hk : k ≠ i) :
    (l.set i v).getD k d = l.getD k d := by
  have hk' : i ≠ k := fun h => hk h.symm
  simp [List.getD_eq_getElem?_getD, List.getElem?_set_ne hk']

theorem foldl_range_succ {α : Type} (f : α → Nat → α) (a : α) (n : Nat) :
    (List.range (n + 1)).foldl f a = f ((List.range n).foldl f a) n := by
  simp [List.range_succ, List.foldl_append]

theorem nBlocks_eq (W n : Nat) (hW : 0 < W) :
    nBlocks W n = if n % W > 0 then n / W + 1 else n / W := by
  have hqm := Nat.mod_lt n hW
  unfold nBlocks
  conv => lhs; rw [← Nat.div_add_mod n W, Nat.add_sub_assoc hW, Nat.add_assoc, Nat.mul_add_div hW]
  split
  · have h1 : (n % W + (W - 1)) / W = 1 := Nat.div_eq_of_lt_le (by omega) (by omega)
    rw [h1]
  · have h0 : (n % W + (W - 1)) / W = 0 := Nat.div_eq_of_lt (by omega)
    rw [h0, Nat.add_zero]

theorem ompBlockSize_le (W n nb ib : Nat) (hW : 0 < W) : ompBlockSize W n nb ib ≤ W := by
  unfold ompBlockSize
  split
  · exact Nat.le_of_lt (Nat.mod_lt n hW)
  · exact Nat.le_refl _

theorem ompBlockSize_full (W n ib : Nat) (hW : 0 < W) (hib : ib < n / W) :
    ompBlockSize W n (nBlocks W n) ib = W := by
  unfold ompBlockSize
  rw [nBlocks_eq W n hW, if_neg]
  rintro ⟨h1, h2⟩
  rw [if_pos h2] at h1
  omega

theorem ompBlockSize_last (W n : Nat) (hW : 0 < W) (hr : n % W > 0) :
    ompBlockSize W n (nBlocks W n) (n / W) = n % W := by
  unfold ompBlockSize
  rw [nBlocks_eq W n hW, if_pos hr, if_pos ⟨rfl, hr⟩]

theorem lt_nBlocks_iff (W n ib : Nat) (hW : 0 < W) : ib < nBlocks W n ↔ W * ib < n := by
  unfold nBlocks
  rw [Nat.lt_div_iff_mul_lt hW, Nat.mul_comm, Nat.add_sub_assoc hW, Nat.add_sub_cancel]

theorem ompBlockSize_eq_min (W n ib : Nat) (hW : 0 < W) (hib : ib < nBlocks W n) :
    ompBlockSize W n (nBlocks W n) ib = min W (n - W * ib) := by
  have hlt := (lt_nBlocks_iff W n ib hW).mp hib
  rcases Nat.lt_or_ge ib (n / W) with h | h
  · have h1 : W * ib + W ≤ W * (n / W) := Nat.mul_le_mul_left W h
    rw [ompBlockSize_full W n ib hW h,
      Nat.min_eq_left (Nat.le_sub_of_add_le' (Nat.le_trans h1 (Nat.mul_div_le n W)))]
  · have heq : ib = n / W :=
      Nat.le_antisymm ((Nat.le_div_iff_mul_le hW).mpr (Nat.mul_comm W ib ▸ Nat.le_of_lt hlt)) h
    subst heq
    have hr : n % W > 0 := Nat.mod_eq_sub_mul_div ▸ Nat.sub_pos_of_lt hlt
    rw [ompBlockSize_last W n hW hr, ← Nat.mod_eq_sub_mul_div,
      Nat.min_eq_right (Nat.le_of_lt (Nat.mod_lt n hW))]

theorem block_of_lt (W n j : Nat) (hW : 0 < W) (hj : j < n) :
    j / W < nBlocks W n ∧ j % W < ompBlockSize W n (nBlocks W n) (j / W) := by
  have hib : j / W < nBlocks W n :=
    (lt_nBlocks_iff W n _ hW).mpr (Nat.lt_of_le_of_lt (Nat.mul_div_le j W) hj)
  refine ⟨hib, ?_⟩
  rw [ompBlockSize_eq_min W n _ hW hib]
  refine Nat.lt_min.mpr ⟨Nat.mod_lt j hW, Nat.lt_sub_of_add_lt ?_⟩
  rw [Nat.add_comm, Nat.div_add_mod]
  exact hj

theorem omp_blocks_cover (W n : Nat) (hW : 0 < W) :
    (∀ j, j < n → ∃ ib, ib < nBlocks W n ∧ W * ib ≤ j ∧
        j < W * ib + ompBlockSize W n (nBlocks W n) ib) ∧
    (∀ ib, ib < nBlocks W n → W * ib + ompBlockSize W n (nBlocks W n) ib ≤ n) := by
  constructor
  · intro j hj
    obtain ⟨h1, h2⟩ := block_of_lt W n j hW hj
    refine ⟨j / W, h1, Nat.mul_div_le j W, ?_⟩
    calc j = W * (j / W) + j % W := (Nat.div_add_mod j W).symm
      _ < _ := Nat.add_lt_add_left h2 _
  · intro ib hib
    rw [ompBlockSize_eq_min W n ib hW hib]
    calc W * ib + min W (n - W * ib) ≤ W * ib + (n - W * ib) := Nat.add_le_add_left (Nat.min_le_right _ _) _
      _ = n := Nat.add_sub_cancel' (Nat.le_of_lt ((lt_nBlocks_iff W n ib hW).mp hib))

/-! ### addressing

`cell a b` is the address of entry `(a, b)`, `a < p` the index of the *outer* copy-out loop and
`b < q` the index along which the routine is blocked. -/

structure CellOK (cell : Nat → Nat → Nat) (p q len : Nat) : Prop where
  lt : ∀ a b, a < p → b < q → cell a b < len
  inj : ∀ a b a' b', a < p → b < q → a' < p → b' < q → cell a b = cell a' b' → a = a' ∧ b = b'

theorem cellOK_fwd {m n dO iO len : Nat} (h : LayoutOK m n dO iO len) :
    CellOK (fun a b => a * dO + b * iO) m n len := ⟨h.1, h.2⟩

theorem cellOK_rev {m n dO iO len : Nat} (h : LayoutOK m n dO iO len) :
    CellOK (fun a b => a * iO + b * dO) n m len := by
  refine ⟨fun a b ha hb => ?_, fun a b a' b' ha hb ha' hb' e => ?_⟩
  · show a * iO + b * dO < len
    rw [Nat.add_comm]
    exact h.1 b a hb ha
  · have e' : a * iO + b * dO = a' * iO + b' * dO := e
    have := h.2 b a b' a' hb ha hb' ha' ((Nat.add_comm _ _).trans (e'.trans (Nat.add_comm _ _)))
    exact ⟨this.2, this.1⟩

section Sweeps
variable {R : Type} [Add R] [Mul R] [Zero R]

theorem fwd_nil (g : Vec R) : fwd ([] : List (Stmt R)) g = g := rfl

theorem fwd_cons (s : Stmt R) (t : List (Stmt R)) (g : Vec R) :
    fwd (s :: t) g = fwd t (fwdStep s g) := rfl

theorem revZ_cons (nz : R → Bool) (s : Stmt R) (t : List (Stmt R)) (g : Vec R) :
    revZ nz (s :: t) g = revStepZ nz s (revZ nz t g) := rfl

end Sweeps

namespace LF

variable {R : Type} [Add R] [Mul R] [Zero R] [One R]

/-- unit vector of length `N` (seed of one lane) -/
def unit (N x : Nat) : Vec R := (List.replicate N (0 : R)).set x 1

/-- `∂(slot y)/∂(slot x)` as `Stack::compute_tangent_linear` computes it from the seed `e_x`: the expression tree, not its
    value in a ring -/
def entryFwd (t : List (Stmt R)) (N x y : Nat) : R := rd (fwd t (unit N x)) y

/-- the same entry as `Stack::compute_adjoint` computes it from the seed `e_y` -/
def entryRev (nz : R → Bool) (t : List (Stmt R)) (N x y : Nat) : R := rd (revZ nz t (unit N y)) x

/-- `o'` is `o` with `E a b` written to `cell a b` for every `(a, b)` in `P`, nothing else changed -/
def Writes (cell : Nat → Nat → Nat) (E : Nat → Nat → R) (P : Nat → Nat → Prop) (o o' : Out R) : Prop :=
  o'.length = o.length ∧
  (∀ a b, P a b → rd o' (cell a b) = E a b) ∧
  (∀ c, (∀ a b, P a b → c ≠ cell a b) → rd o' c = rd o c)

section Writes
variable {cell : Nat → Nat → Nat} {E : Nat → Nat → R} {p q len : Nat}

theorem Writes.empty (cell : Nat → Nat → Nat) (E : Nat → Nat → R) (o : Out R) :
    Writes cell E (fun _ _ => False) o o :=
  ⟨rfl, fun _ _ h => h.elim, fun _ _ => rfl⟩

theorem Writes.congr {P Q : Nat → Nat → Prop} {o o' : Out R} (h : ∀ a b, P a b ↔ Q a b)
    (w : Writes cell E P o o') : Writes cell E Q o o' := by
  have : P = Q := by funext a b; exact propext (h a b)
  subst this; exact w

theorem Writes.unique {P : Nat → Nat → Prop} {o o1 o2 : Out R}
    (w1 : Writes cell E P o o1) (w2 : Writes cell E P o o2) : o1 = o2 := by
  obtain ⟨l1, v1, u1⟩ := w1
  obtain ⟨l2, v2, u2⟩ := w2
  apply List.ext_getElem (l1.trans l2.symm)
  intro c hc1 hc2
  rw [← rd_eq_getElem o1 c hc1, ← rd_eq_getElem o2 c hc2]
  by_cases h : ∃ a b, P a b ∧ c = cell a b
  · obtain ⟨a, b, hab, rfl⟩ := h
    rw [v1 a b hab, v2 a b hab]
  · have h' : ∀ a b, P a b → c ≠ cell a b := fun a b hab e => h ⟨a, b, hab, e⟩
    rw [u1 c h', u2 c h']

theorem Writes.single (hc : CellOK cell p q len) {o : Out R} (ho : o.length = len)
    {a b : Nat} (ha : a < p) (hb : b < q) {v : R} (hv : v = E a b) :
    Writes cell E (fun a' b' => a' = a ∧ b' = b) o (o.set (cell a b) v) := by
  refine ⟨by simp, ?_, ?_⟩
  · rintro a' b' ⟨rfl, rfl⟩
    rw [rd_set_self _ _ _ (by rw [ho]; exact hc.lt _ _ ha hb), hv]
  · intro c hcne
    exact rd_set_ne _ _ _ _ (hcne a b ⟨rfl, rfl⟩)

theorem Writes.trans (hc : CellOK cell p q len) {P Q : Nat → Nat → Prop} {o o' o'' : Out R}
    (hP : ∀ a b, P a b → a < p ∧ b < q) (hQ : ∀ a b, Q a b → a < p ∧ b < q)
    (w1 : Writes cell E P o o') (w2 : Writes cell E Q o' o'') :
    Writes cell E (fun a b => P a b ∨ Q a b) o o'' := by
  obtain ⟨l1, v1, u1⟩ := w1
  obtain ⟨l2, v2, u2⟩ := w2
  refine ⟨l2.trans l1, ?_, ?_⟩
  · intro a b hab
    by_cases hq : Q a b
    · exact v2 a b hq
    · have hp : P a b := hab.resolve_right hq
      rw [u2 _ (fun a' b' hq' e => ?_), v1 a b hp]
      obtain ⟨rfl, rfl⟩ := hc.inj a b a' b' (hP a b hp).1 (hP a b hp).2 (hQ a' b' hq').1
        (hQ a' b' hq').2 e
      exact hq hq'
  · intro c hcne
    rw [u2 c (fun a b hq => hcne a b (Or.inr hq)), u1 c (fun a b hp => hcne a b (Or.inl hp))]

theorem Writes.foldl {ι : Type} (hc : CellOK cell p q len)
    (Pk : ι → Nat → Nat → Prop) (f : Out R → ι → Out R) (l : List ι)
    (hD : ∀ k ∈ l, ∀ a b, Pk k a b → a < p ∧ b < q)
    (hstep : ∀ k ∈ l, ∀ o : Out R, o.length = len → Writes cell E (Pk k) o (f o k))
    (o : Out R) (ho : o.length = len) :
    Writes cell E (fun a b => ∃ k ∈ l, Pk k a b) o (l.foldl f o) := by
  induction l generalizing o with
  | nil => exact (Writes.empty cell E o).congr (by simp)
  | cons k l ih =>
    have w1 := hstep k (List.mem_cons_self ..) o ho
    have w2 := ih (fun k' hk' => hD k' (List.mem_cons_of_mem _ hk'))
      (fun k' hk' => hstep k' (List.mem_cons_of_mem _ hk')) (f o k) (by rw [w1.1, ho])
    have w := Writes.trans hc (hD k (List.mem_cons_self ..))
      (by rintro a b ⟨k', hk', h⟩; exact hD k' (List.mem_cons_of_mem _ hk') a b h) w1 w2
    rw [List.foldl_cons]
    exact w.congr (fun a b => by simp)

/-- the two nested copy-out loops of one block, over an arbitrary addressing and value table -/
def copyOutG (cell : Nat → Nat → Nat) (val : Nat → Nat → R) (p first size : Nat) (out : Out R) : Out R :=
  (List.range p).foldl (fun out a =>
    (List.range size).foldl (fun out i => out.set (cell a (first + i)) (val a i)) out) out

theorem copyOutFwd_eq_copyOutG (out : Out R) (b : Buf R) (dep : List Nat) (first size dO iO : Nat) :
    copyOutFwd out b dep first size dO iO =
      copyOutG (fun a j => a * dO + j * iO) (fun a i => rd (b.getD i []) (dep.getD a 0)) dep.length first size out := rfl

theorem copyOutRev_eq_copyOutG (out : Out R) (b : Buf R) (indep : List Nat) (first size dO iO : Nat) :
    copyOutRev out b indep first size dO iO =
      copyOutG (fun a j => a * iO + j * dO) (fun a i => rd (b.getD i []) (indep.getD a 0)) indep.length first size out := rfl

theorem copyOutG_writes (hc : CellOK cell p q len) (val : Nat → Nat → R) (first size : Nat)
    (hfs : first + size ≤ q) (hval : ∀ a i, a < p → i < size → val a i = E a (first + i))
    (o : Out R) (ho : o.length = len) :
    Writes cell E (fun a b => a < p ∧ first ≤ b ∧ b < first + size) o
      (copyOutG cell val p first size o) := by
  unfold copyOutG
  have hin : ∀ {a i}, a ∈ List.range p → i ∈ List.range size → a < p ∧ first + i < q := fun ha hi =>
    ⟨List.mem_range.mp ha, Nat.lt_of_lt_of_le (Nat.add_lt_add_left (List.mem_range.mp hi) first) hfs⟩
  have w := Writes.foldl hc (fun a a' b' => ∃ i ∈ List.range size, a' = a ∧ b' = first + i) _ (List.range p)
    (by
      rintro a ha a' b' ⟨i, hi, rfl, rfl⟩
      exact hin ha hi)
    (fun a ha o ho => Writes.foldl hc (fun i a' b' => a' = a ∧ b' = first + i)
      (fun out i => out.set (cell a (first + i)) (val a i)) (List.range size)
      (by
        rintro i hi a' b' ⟨rfl, rfl⟩
        exact hin ha hi)
      (fun i hi o ho => Writes.single hc ho (hin ha hi).1 (hin ha hi).2
        (hval a i (List.mem_range.mp ha) (List.mem_range.mp hi)))
      o ho)
    o ho
  refine w.congr (fun a' b' => ?_)
  simp only [List.mem_range]
  constructor
  · rintro ⟨a, ha, i, hi, rfl, rfl⟩
    exact ⟨ha, Nat.le_add_right _ _, Nat.add_lt_add_left hi _⟩
  · rintro ⟨ha, h1, h2⟩
    exact ⟨a', ha, b' - first, Nat.sub_lt_left_of_lt_add h1 h2, rfl, (Nat.add_sub_cancel' h1).symm⟩

/-- blocks executed in ANY order that runs each of them once, whatever function `f · ib` block `ib` is -/
theorem sched_writes (hc : CellOK cell p q len) (W : Nat) (hW : 0 < W) (f : Out R → Nat → Out R)
    (hblk : ∀ ib, ib < nBlocks W q → ∀ o : Out R, o.length = len →
      Writes cell E (fun a b => a < p ∧ W * ib ≤ b ∧ b < W * ib + ompBlockSize W q (nBlocks W q) ib) o (f o ib))
    (sched : List Nat) (hs : sched.Perm (List.range (nBlocks W q)))
    (o : Out R) (ho : o.length = len) :
    Writes cell E (fun a b => a < p ∧ b < q) o (sched.foldl f o) := by
  obtain ⟨hcov, hin⟩ := omp_blocks_cover W q hW
  have hmem : ∀ ib, ib ∈ sched ↔ ib < nBlocks W q := fun ib => by
    rw [hs.mem_iff, List.mem_range]
  have w := Writes.foldl hc
    (fun ib a b => a < p ∧ W * ib ≤ b ∧ b < W * ib + ompBlockSize W q (nBlocks W q) ib) f sched
    (by
      rintro ib hib a b ⟨ha, h1, h2⟩
      exact ⟨ha, Nat.lt_of_lt_of_le h2 (hin ib ((hmem ib).mp hib))⟩)
    (fun ib hib o ho => hblk ib ((hmem ib).mp hib) o ho)
    o ho
  refine w.congr (fun a b => ?_)
  constructor
  · rintro ⟨ib, hib, ha, h1, h2⟩
    exact ⟨ha, Nat.lt_of_lt_of_le h2 (hin ib ((hmem ib).mp hib))⟩
  · rintro ⟨ha, hb⟩
    obtain ⟨ib, hib, h1, h2⟩ := hcov b hb
    exact ⟨ib, (hmem ib).mpr hib, ha, h1, h2⟩

theorem sched_unique (hc : CellOK cell p q len) (W : Nat) (hW : 0 < W) (f₁ f₂ : Out R → Nat → Out R)
    (h₁ : ∀ ib, ib < nBlocks W q → ∀ o : Out R, o.length = len →
      Writes cell E (fun a b => a < p ∧ W * ib ≤ b ∧ b < W * ib + ompBlockSize W q (nBlocks W q) ib) o (f₁ o ib))
    (h₂ : ∀ ib, ib < nBlocks W q → ∀ o : Out R, o.length = len →
      Writes cell E (fun a b => a < p ∧ W * ib ≤ b ∧ b < W * ib + ompBlockSize W q (nBlocks W q) ib) o (f₂ o ib))
    (s₁ s₂ : List Nat) (hs₁ : s₁.Perm (List.range (nBlocks W q))) (hs₂ : s₂.Perm (List.range (nBlocks W q)))
    (o : Out R) (ho : o.length = len) :
    s₁.foldl f₁ o = s₂.foldl f₂ o :=
  (sched_writes hc W hW f₁ h₁ s₁ hs₁ o ho).unique (sched_writes hc W hW f₂ h₂ s₂ hs₂ o ho)

end Writes

/-- what a Jacobian routine leaves in the caller's buffer, for an arbitrary table `E i j` of entries: entry (i,j) in cell
    `i*depOff + j*indepOff`, every other cell untouched -/
def JacSpecE (E : Nat → Nat → R) (m n depOff indepOff : Nat) (out out' : Out R) : Prop :=
  out'.length = out.length ∧
  (∀ i j, i < m → j < n → rd out' (i * depOff + j * indepOff) = E i j) ∧
  (∀ c, (∀ i j, i < m → j < n → c ≠ i * depOff + j * indepOff) → rd out' c = rd out c)

theorem jacSpecE_iff_writes {E : Nat → Nat → R} {m n dO iO : Nat} {out out' : Out R} :
    JacSpecE E m n dO iO out out' ↔
      Writes (fun a b => a * dO + b * iO) E (fun a b => a < m ∧ b < n) out out' :=
  ⟨fun h => ⟨h.1, fun a b hab => h.2.1 a b hab.1 hab.2, fun c hc => h.2.2 c (fun i j hi hj => hc i j ⟨hi, hj⟩)⟩,
   fun w => ⟨w.1, fun i j hi hj => w.2.1 i j ⟨hi, hj⟩, fun c h => w.2.2 c (fun a b hab => h a b hab.1 hab.2)⟩⟩

theorem jacSpecE_of_writes_rev {E : Nat → Nat → R} {m n dO iO : Nat} {out out' : Out R}
    (w : Writes (fun a b => a * iO + b * dO) E (fun a b => a < n ∧ b < m) out out') :
    JacSpecE (fun i j => E j i) m n dO iO out out' := by
  refine ⟨w.1, fun i j hi hj => ?_, fun c h => w.2.2 c (fun a b hab => ?_)⟩
  · rw [Nat.add_comm]
    exact w.2.1 j i ⟨hj, hi⟩
  · show c ≠ a * iO + b * dO
    rw [Nat.add_comm]
    exact h b a hab.2 hab.1

theorem JacSpecE.unique {E : Nat → Nat → R} {m n dO iO : Nat} {out o1 o2 : Out R}
    (h1 : JacSpecE E m n dO iO out o1) (h2 : JacSpecE E m n dO iO out o2) : o1 = o2 :=
  (jacSpecE_iff_writes.mp h1).unique (jacSpecE_iff_writes.mp h2)

theorem JacSpecE.congr {E E' : Nat → Nat → R} {m n dO iO : Nat} {out out' : Out R}
    (h : ∀ i j, i < m → j < n → E i j = E' i j) (w : JacSpecE E m n dO iO out out') :
    JacSpecE E' m n dO iO out out' :=
  ⟨w.1, fun i j hi hj => by rw [w.2.1 i j hi hj, h i j hi hj], w.2.2⟩

/-! ### the serial loops are the blocks `0, 1, …, ⌈q/W⌉-1` in order -/

theorem serial_as_range {α : Type} (W q : Nat) (hW : 0 < W) (blk : Nat → Nat → Nat → α → α) (o : α) :
    (if q % W > 0 then
        blk (W * (q / W)) (q % W) (q % W) ((List.range (q / W)).foldl (fun out ib => blk (W * ib) W W out) o)
      else (List.range (q / W)).foldl (fun out ib => blk (W * ib) W W out) o) =
    (List.range (nBlocks W q)).foldl (fun out ib =>
      blk (W * ib) (ompBlockSize W q (nBlocks W q) ib) (ompBlockSize W q (nBlocks W q) ib) out) o := by
  have hfull : (List.range (q / W)).foldl (fun out ib => blk (W * ib) W W out) o =
      (List.range (q / W)).foldl (fun out ib =>
        blk (W * ib) (ompBlockSize W q (nBlocks W q) ib) (ompBlockSize W q (nBlocks W q) ib) out) o :=
    foldl_congr_mem (fun ib hib x => by rw [ompBlockSize_full W q ib hW (List.mem_range.mp hib)]) o
  by_cases hr : q % W > 0
  · rw [if_pos hr, hfull, show List.range (nBlocks W q) = List.range (q / W + 1) by rw [nBlocks_eq W q hW, if_pos hr],
      foldl_range_succ, ompBlockSize_last W q hW hr]
  · rw [if_neg hr, hfull, show List.range (nBlocks W q) = List.range (q / W) by rw [nBlocks_eq W q hW, if_neg hr]]

theorem zeroBuf_length (W M : Nat) : (zeroBuf W M : Buf R).length = W := by
  simp [zeroBuf]

theorem zeroBuf_getD (W M i : Nat) (hi : i < W) :
    (zeroBuf W M : Buf R).getD i [] = List.replicate M 0 := by
  simp [zeroBuf, List.getD_eq_getElem?_getD, hi]

theorem seedLane_length (b : Buf R) (lane idx : Nat) : (seedLane b lane idx).length = b.length := by
  simp [seedLane]

theorem seedBlock_succ (b : Buf R) (vars : List Nat) (first size : Nat) :
    seedBlock b vars first (size + 1) =
      seedLane (seedBlock b vars first size) size (vars.getD (first + size) 0) := by
  unfold seedBlock
  rw [foldl_range_succ]

theorem seedBlock_spec (W M : Nat) (vars : List Nat) (first size : Nat) (hs : size ≤ W) :
    (seedBlock (zeroBuf W M) vars first size : Buf R).length = W ∧
    ∀ i, i < W → (seedBlock (zeroBuf W M) vars first size : Buf R).getD i [] =
      if i < size then unit M (vars.getD (first + i) 0) else List.replicate M 0 := by
  induction size with
  | zero =>
    refine ⟨zeroBuf_length W M, fun i hi => ?_⟩
    rw [if_neg (Nat.not_lt_zero i)]
    exact zeroBuf_getD W M i hi
  | succ size ih =>
    obtain ⟨hl, hg⟩ := ih (Nat.le_of_succ_le hs)
    rw [seedBlock_succ]
    refine ⟨by rw [seedLane_length, hl], fun i hi => ?_⟩
    unfold seedLane
    rw [hg size hs, if_neg (Nat.lt_irrefl _)]
    by_cases his : i = size
    · subst his
      rw [getD_set_self _ _ _ _ (hl.symm ▸ hs), if_pos (Nat.lt_succ_self _)]
      rfl
    · rw [getD_set_ne _ _ _ _ _ his, hg i hi]
      by_cases hlt : i < size
      · rw [if_pos hlt, if_pos (Nat.lt_succ_of_lt hlt)]
      · rw [if_neg hlt, if_neg (fun h => hlt (Nat.lt_of_le_of_ne (Nat.le_of_lt_succ h) his))]

theorem seedBlock_lane (W M : Nat) (vars : List Nat) (first size i : Nat) (hs : size ≤ W) (hi : i < size) :
    (seedBlock (zeroBuf W M) vars first size : Buf R).getD i [] = unit M (vars.getD (first + i) 0) := by
  rw [(seedBlock_spec W M vars first size hs).2 i (Nat.lt_of_lt_of_le hi hs), if_pos hi]

/-- `f` applied to each lane `< nl`, the other lanes untouched -/
def lanewise (nl : Nat) (f : Vec R → Vec R) (b : Buf R) : Buf R :=
  b.mapIdx (fun i lane => if i < nl then f lane else lane)

theorem kernelFwd_eq_lanewise (t : List (Stmt R)) (nl : Nat) (b : Buf R) :
    kernelFwd t nl b = lanewise nl (fwd t) b := rfl

theorem kernelRev_eq_lanewise [DecidableEq R] (t : List (Stmt R)) (nl : Nat) (b : Buf R) :
    kernelRev t nl b = lanewise nl (rev t) b := rfl

theorem kernelFwdS_cons (s : Stmt R) (t : List (Stmt R)) (nl : Nat) (b : Buf R) :
    kernelFwdS (s :: t) nl b = kernelFwdS t nl (lanewise nl (fwdStep s) b) := rfl

theorem revStmtB_eq_lanewise (nz : R → Bool) (s : Stmt R) (nl : Nat) (b : Buf R) :
    revStmtB nz s nl b = lanewise nl (revLaneB (anyNz nz b nl s.lhs) s) b := rfl

theorem kernelRevB_cons (nz : R → Bool) (s : Stmt R) (t : List (Stmt R)) (nl : Nat) (b : Buf R) :
    kernelRevB nz (s :: t) nl b = revStmtB nz s nl (kernelRevB nz t nl b) := rfl

theorem lanewise_length (nl : Nat) (f : Vec R → Vec R) (b : Buf R) : (lanewise nl f b).length = b.length := by
  simp [lanewise]

theorem lanewise_getD (nl : Nat) (f : Vec R → Vec R) (b : Buf R) (i : Nat) (hi : i < nl) (hb : i < b.length) :
    (lanewise nl f b).getD i [] = f (b.getD i []) := by
  simp [lanewise, List.getD_eq_getElem?_getD, hi, hb]

theorem lanewise_congr (nl : Nat) (f g : Vec R → Vec R) (b : Buf R)
    (h : ∀ i (hi : i < b.length), i < nl → f b[i] = g b[i]) : lanewise nl f b = lanewise nl g b := by
  apply List.ext_getElem (by simp [lanewise])
  intro i h1 h2
  simp only [lanewise, List.getElem_mapIdx]
  split
  · exact h i _ ‹_›
  · rfl

theorem lanewise_id (nl : Nat) (b : Buf R) : lanewise nl (fun g => g) b = b := by
  apply List.ext_getElem (by simp [lanewise])
  intro i h1 h2
  simp [lanewise]

theorem lanewise_lanewise (nl : Nat) (f g : Vec R → Vec R) (b : Buf R) :
    lanewise nl f (lanewise nl g b) = lanewise nl (fun v => f (g v)) b := by
  apply List.ext_getElem (by simp [lanewise])
  intro i h1 h2
  simp only [lanewise, List.getElem_mapIdx]
  split <;> rfl

theorem lanewise_forall (nl : Nat) (f : Vec R → Vec R) (b : Buf R) (P : Vec R → Prop)
    (hb : ∀ i (h : i < b.length), P b[i]) (hf : ∀ g, P g → P (f g)) :
    ∀ i (h : i < (lanewise nl f b).length), P (lanewise nl f b)[i] := by
  intro i h
  have hi : i < b.length := by rwa [lanewise_length] at h
  simp only [lanewise, List.getElem_mapIdx]
  split
  · exact hf _ (hb i hi)
  · exact hb i hi

/-- the statement-major loops of the C++ kernels (every lane does statement 1, then every lane does statement 2, …)
    compute lane by lane what `kernelFwd` says -/
theorem kernelFwdS_eq (t : List (Stmt R)) (nl : Nat) (b : Buf R) : kernelFwdS t nl b = kernelFwd t nl b := by
  induction t generalizing b with
  | nil => exact (lanewise_id nl b).symm
  | cons s t ih =>
    rw [kernelFwdS_cons, ih, kernelFwd_eq_lanewise, kernelFwd_eq_lanewise, lanewise_lanewise,
      funext (fwd_cons s t)]

/-- lane `i` of a forward block, whatever the number `nl ≥ size` of lanes the kernel runs on (`W` in the OpenMP routine,
    `n % W` in `jacobian_forward_kernel_extra`), is the tangent-linear pass of the seed `e_{x_{first+i}}` -/
theorem fwd_lane (t : List (Stmt R)) (W M : Nat) (vars : List Nat) (first size nl i : Nat)
    (hsz : size ≤ nl) (hnl : nl ≤ W) (hi : i < size) :
    (kernelFwd t nl (seedBlock (zeroBuf W M) vars first size)).getD i [] =
      fwd t (unit M (vars.getD (first + i) 0)) := by
  have hs := Nat.le_trans hsz hnl
  rw [← seedBlock_lane W M vars first size i hs hi]
  rw [kernelFwd_eq_lanewise]
  refine lanewise_getD nl (fwd t) _ i (Nat.lt_of_lt_of_le hi hsz) ?_
  rw [(seedBlock_spec W M vars first size hs).1]
  exact Nat.lt_of_lt_of_le hi hs

section Forward
variable (t : List (Stmt R)) (c : JacCfg) (indep dep : List Nat)

theorem fwdBlock_writes (first size nl len : Nat) (hsz : size ≤ nl) (hnl : nl ≤ c.W)
    (hfs : first + size ≤ indep.length)
    (hc : CellOK (fun a b => a * c.depOff + b * c.indepOff) dep.length indep.length len)
    (o : Out R) (ho : o.length = len) :
    Writes (fun a b => a * c.depOff + b * c.indepOff)
      (fun a b => entryFwd t c.maxGrad (indep.getD b 0) (dep.getD a 0))
      (fun a b => a < dep.length ∧ first ≤ b ∧ b < first + size) o
      (fwdBlock t c indep dep first size nl o) := by
  unfold fwdBlock
  rw [copyOutFwd_eq_copyOutG]
  refine copyOutG_writes hc _ first size hfs ?_ o ho
  intro a i _ hi
  rw [fwd_lane t c.W c.maxGrad indep first size nl i hsz hnl hi]
  rfl

/-- the forward blocks in any order, block `ib` run on any number `nlf ib` of lanes between its size and `W` -/
theorem fwdSched_spec (nlf : Nat → Nat) (sched : List Nat) (out : Out R) (hW : 0 < c.W)
    (hnl : ∀ ib, ompBlockSize c.W indep.length (nBlocks c.W indep.length) ib ≤ nlf ib ∧ nlf ib ≤ c.W)
    (hl : LayoutOK dep.length indep.length c.depOff c.indepOff out.length)
    (hs : sched.Perm (List.range (nBlocks c.W indep.length))) :
    JacSpecE (fun i j => entryFwd t c.maxGrad (indep.getD j 0) (dep.getD i 0)) dep.length indep.length
      c.depOff c.indepOff out
      (sched.foldl (fun out ib => fwdBlock t c indep dep (c.W * ib)
        (ompBlockSize c.W indep.length (nBlocks c.W indep.length) ib) (nlf ib) out) out) :=
  jacSpecE_iff_writes.mpr (sched_writes (cellOK_fwd hl) c.W hW _
    (fun ib hib o ho => fwdBlock_writes t c indep dep _ _ _ _ (hnl ib).1 (hnl ib).2
      ((omp_blocks_cover c.W indep.length hW).2 ib hib) (cellOK_fwd hl) o ho)
    sched hs out rfl)

/-- `jacobian_forward_openmp` runs the full-width kernel on every block -/
theorem jacFwdOmp_spec (sched : List Nat) (out : Out R)
    (hW : 0 < c.W) (hl : LayoutOK dep.length indep.length c.depOff c.indepOff out.length)
    (hs : sched.Perm (List.range (nBlocks c.W indep.length))) :
    JacSpecE (fun i j => entryFwd t c.maxGrad (indep.getD j 0) (dep.getD i 0)) dep.length indep.length
      c.depOff c.indepOff out (jacFwdOmp t c indep dep sched out) := by
  unfold jacFwdOmp
  exact fwdSched_spec t c indep dep (fun _ => c.W) sched out hW
    (fun _ => ⟨ompBlockSize_le _ _ _ _ hW, Nat.le_refl _⟩) hl hs

/-- `jacobian_forward` runs each block on as many lanes as it has columns, in increasing order -/
theorem jacFwdSerial_spec (out : Out R) (hW : 0 < c.W)
    (hl : LayoutOK dep.length indep.length c.depOff c.indepOff out.length) :
    JacSpecE (fun i j => entryFwd t c.maxGrad (indep.getD j 0) (dep.getD i 0)) dep.length indep.length
      c.depOff c.indepOff out (jacFwdSerial t c indep dep out) := by
  unfold jacFwdSerial
  simp only
  rw [serial_as_range c.W indep.length hW (fun first size nl o => fwdBlock t c indep dep first size nl o) out]
  exact fwdSched_spec t c indep dep _ _ out hW
    (fun _ => ⟨Nat.le_refl _, ompBlockSize_le _ _ _ _ hW⟩) hl (List.Perm.refl _)

end Forward

theorem kernelRevB_length (nz : R → Bool) (t : List (Stmt R)) (nl : Nat) (b : Buf R) :
    (kernelRevB nz t nl b).length = b.length := by
  induction t with
  | nil => rfl
  | cons s t ih => rw [kernelRevB_cons, revStmtB_eq_lanewise, lanewise_length, ih]

/-- the value block `b / W` of the reverse routines leaves for entry (row `a` of the independents, column `b` of the
    dependents): it depends on the block (the other lanes decide whether `+= m*0` is executed), not on the routine -/
def revVal (nz : R → Bool) (t : List (Stmt R)) (c : JacCfg) (indep dep : List Nat) (a b : Nat) : R :=
  let nb := nBlocks c.W dep.length
  let sz := ompBlockSize c.W dep.length nb (b / c.W)
  rd ((kernelRevB nz t sz (seedBlock (zeroBuf c.W c.maxGrad) dep (c.W * (b / c.W)) sz)).getD (b % c.W) [])
    (indep.getD a 0)

section Reverse
variable (nz : R → Bool) (t : List (Stmt R)) (c : JacCfg) (indep dep : List Nat)

theorem revBlockB_writes (ib len : Nat) (hW : 0 < c.W) (hib : ib < nBlocks c.W dep.length)
    (hc : CellOK (fun a b => a * c.indepOff + b * c.depOff) indep.length dep.length len)
    (o : Out R) (ho : o.length = len)
    (sz : Nat) (hsz : sz = ompBlockSize c.W dep.length (nBlocks c.W dep.length) ib) :
    Writes (fun a b => a * c.indepOff + b * c.depOff) (revVal nz t c indep dep)
      (fun a b => a < indep.length ∧ c.W * ib ≤ b ∧ b < c.W * ib + sz) o
      (revBlockB nz t c indep dep (c.W * ib) sz sz o) := by
  subst hsz
  have hle := ompBlockSize_le c.W dep.length (nBlocks c.W dep.length) ib hW
  unfold revBlockB
  rw [copyOutRev_eq_copyOutG]
  refine copyOutG_writes hc _ (c.W * ib) _ ((omp_blocks_cover c.W dep.length hW).2 ib hib) ?_ o ho
  intro a i _ hi
  have hi' : i < c.W := Nat.lt_of_lt_of_le hi hle
  have h1 : (c.W * ib + i) / c.W = ib := by
    rw [Nat.mul_add_div hW, Nat.div_eq_of_lt hi', Nat.add_zero]
  have h2 : (c.W * ib + i) % c.W = i := by
    rw [Nat.mul_add_mod, Nat.mod_eq_of_lt hi']
  unfold revVal
  simp only [h1, h2]

theorem jacRevOmpB_spec (sched : List Nat) (out : Out R) (hW : 0 < c.W)
    (hl : LayoutOK dep.length indep.length c.depOff c.indepOff out.length)
    (hs : sched.Perm (List.range (nBlocks c.W dep.length))) :
    JacSpecE (fun i j => revVal nz t c indep dep j i) dep.length indep.length c.depOff c.indepOff out
      (jacRevOmpB nz t c indep dep sched out) := by
  unfold jacRevOmpB
  exact jacSpecE_of_writes_rev (sched_writes (cellOK_rev hl) c.W hW _
    (fun ib hib o ho => revBlockB_writes nz t c indep dep ib _ hW hib (cellOK_rev hl) o ho _ rfl)
    sched hs out rfl)

theorem jacRevSerialB_spec (out : Out R) (hW : 0 < c.W)
    (hl : LayoutOK dep.length indep.length c.depOff c.indepOff out.length) :
    JacSpecE (fun i j => revVal nz t c indep dep j i) dep.length indep.length c.depOff c.indepOff out
      (jacRevSerialB nz t c indep dep out) := by
  unfold jacRevSerialB
  simp only
  rw [serial_as_range c.W dep.length hW (fun first size nl o => revBlockB nz t c indep dep first size nl o) out]
  exact jacRevOmpB_spec nz t c indep dep _ out hW hl (List.Perm.refl _)

end Reverse

section Flag
variable (nz : R → Bool)

theorem anyNz_false (b : Buf R) (nl lhs i : Nat) (h : anyNz nz b nl lhs = false) (hi : i < nl) :
    nz (rd (b.getD i []) lhs) = false := by
  unfold anyNz at h
  rw [List.any_eq_false] at h
  have := h i (List.mem_range.mpr hi)
  simpa using this

/-- A lane does for one statement what `compute_adjoint` does, unless its own adjoint tests zero while the flag of the
    block is up: then it also scatters that adjoint. -/
theorem revLaneB_eq (go : Bool) (s : Stmt R) (lane : Vec R)
    (hgo : go = false → nz (rd lane s.lhs) = false)
    (hsc : go = true → nz (rd lane s.lhs) = false →
      scatter s.ops (rd lane s.lhs) (lane.set s.lhs 0) = lane.set s.lhs 0) :
    revLaneB go s lane = revStepZ nz s lane := by
  show (if go = true then scatter s.ops (rd lane s.lhs) (lane.set s.lhs 0) else lane.set s.lhs 0) =
    if nz (rd lane s.lhs) = true then scatter s.ops (rd lane s.lhs) (lane.set s.lhs 0) else lane.set s.lhs 0
  cases go
  · rw [hgo rfl]
  · cases hz : nz (rd lane s.lhs)
    · exact hsc rfl hz
    · rfl

theorem revZ_inv (Inv : Vec R → Prop) (t : List (Stmt R))
    (hstep : ∀ s ∈ t, ∀ g, Inv g → Inv (revStepZ nz s g)) (g : Vec R) (hg : Inv g) : Inv (revZ nz t g) := by
  induction t with
  | nil => exact hg
  | cons s t ih =>
    exact hstep s (List.mem_cons_self ..) _ (ih (fun s' hs' => hstep s' (List.mem_cons_of_mem _ hs')))

/-- The reverse kernel is `compute_adjoint` lane by lane as soon as, statement by statement, no lane `< nl` can tell the
    block-wide flag from its own test; `Inv` is whatever is known of the lanes on the way. -/
theorem kernelRevB_lanewise (Inv : Vec R → Prop) (t : List (Stmt R)) (nl : Nat)
    (hstep : ∀ s ∈ t, ∀ g, Inv g → Inv (revStepZ nz s g))
    (hflag : ∀ s ∈ t, ∀ b : Buf R, (∀ i (h : i < b.length), Inv b[i]) → ∀ i (h : i < b.length), i < nl →
      revLaneB (anyNz nz b nl s.lhs) s b[i] = revStepZ nz s b[i])
    (b : Buf R) (hb : ∀ i (h : i < b.length), Inv b[i]) :
    kernelRevB nz t nl b = lanewise nl (revZ nz t) b := by
  induction t with
  | nil => exact (lanewise_id nl b).symm
  | cons s t ih =>
    have hstep' : ∀ s' ∈ t, ∀ g, Inv g → Inv (revStepZ nz s' g) :=
      fun s' hs' => hstep s' (List.mem_cons_of_mem _ hs')
    rw [kernelRevB_cons, ih hstep' (fun s' hs' => hflag s' (List.mem_cons_of_mem _ hs')), revStmtB_eq_lanewise,
      lanewise_congr nl _ (revStepZ nz s) _ (hflag s (List.mem_cons_self ..) _
        (lanewise_forall nl _ b Inv hb (revZ_inv nz Inv t hstep'))), lanewise_lanewise, funext (revZ_cons nz s t)]

/-- a block of ONE lane (every block when `W = 1`; the last block when `m % W = 1`): flag of the block = test of the lane,
    no hypothesis needed -/
theorem kernelRevB_one_lane (t : List (Stmt R)) (nl : Nat) (hnl : nl ≤ 1) (b : Buf R) :
    kernelRevB nz t nl b = lanewise nl (revZ nz t) b := by
  refine kernelRevB_lanewise nz (fun _ => True) t nl (fun _ _ _ _ => trivial) ?_ b (fun _ _ => trivial)
  intro s _ b _ i h hi
  have hi0 : i = 0 := Nat.lt_one_iff.mp (Nat.lt_of_lt_of_le hi hnl)
  have hnl1 : nl = 1 := Nat.le_antisymm hnl (Nat.lt_of_le_of_lt (Nat.zero_le i) hi)
  subst hi0 hnl1
  have hflag : anyNz nz b 1 s.lhs = nz (rd b[0] s.lhs) := by
    simp [anyNz, List.range_one, List.getD_eq_getElem?_getD, h]
  rw [hflag]
  refine revLaneB_eq nz _ s _ (fun h0 => h0) (fun h1 h0 => ?_)
  rw [h0] at h1
  exact absurd h1 (by decide)

theorem revVal_eq (t : List (Stmt R)) (c : JacCfg) (indep dep : List Nat) (a b : Nat)
    (hW : 0 < c.W) (hb : b < dep.length)
    (hk : ∀ first sz, sz ≤ c.W → kernelRevB nz t sz (seedBlock (zeroBuf c.W c.maxGrad) dep first sz) =
      lanewise sz (revZ nz t) (seedBlock (zeroBuf c.W c.maxGrad) dep first sz)) :
    revVal nz t c indep dep a b = entryRev nz t c.maxGrad (indep.getD a 0) (dep.getD b 0) := by
  obtain ⟨_, hmod⟩ := block_of_lt c.W dep.length b hW hb
  have hsz := ompBlockSize_le c.W dep.length (nBlocks c.W dep.length) (b / c.W) hW
  unfold revVal entryRev
  simp only
  rw [hk _ _ hsz, lanewise_getD _ _ _ _ hmod
      (by rw [(seedBlock_spec c.W c.maxGrad dep _ _ hsz).1]; exact Nat.mod_lt b hW),
    seedBlock_lane c.W c.maxGrad dep _ _ _ hsz hmod, Nat.div_add_mod]

theorem revVal_one_lane (t : List (Stmt R)) (c : JacCfg) (indep dep : List Nat) (a b : Nat)
    (hW : c.W = 1) (hb : b < dep.length) :
    revVal nz t c indep dep a b = entryRev nz t c.maxGrad (indep.getD a 0) (dep.getD b 0) :=
  revVal_eq nz t c indep dep a b (hW ▸ Nat.one_pos) hb
    (fun _ sz hsz => kernelRevB_one_lane nz t sz (hW ▸ hsz) _)

end Flag

/-! ### the hypothesis under which blocks of several lanes compute the adjoint pass

The simplest sufficient condition is `∀ x m a, nz a = false → x + m * a = x`; IEEE doubles do not satisfy it
(`-0.0 + 0*0 = +0.0`, `x + Inf*0 = NaN`).
`SkipOK nz G Mok` restricts it to accumulator values in `G` and multipliers in `Mok`, and asks that `G` contains `0`, `1`
and is closed under the one update the sweeps perform.  Doubles satisfy `SkipOK (· != 0.0) (· is not -0.0) (· is finite)`
in round-to-nearest: a sum is `-0.0` only if both terms are, `finite * ±0 = ±0`, and `x + ±0 = x` unless `x = -0.0`. -/

structure SkipOK (nz : R → Bool) (G Mok : R → Prop) : Prop where
  zero : G 0
  one : G 1
  acc : ∀ x m a, G x → Mok m → G a → G (x + m * a)
  skip : ∀ x m a, G x → Mok m → nz a = false → x + m * a = x

theorem SkipOK.of_skip {nz : R → Bool} (hskip : ∀ x m a : R, nz a = false → x + m * a = x) :
    SkipOK nz (fun _ => True) (fun _ => True) :=
  ⟨trivial, trivial, fun _ _ _ _ _ _ => trivial, fun x m a _ _ => hskip x m a⟩

/-- every cell the vector can be read at holds a value in `G` (cells outside read as `0`) -/
def AllG (G : R → Prop) (g : Vec R) : Prop := ∀ k, G (rd g k)

theorem AllG.set {G : R → Prop} {g : Vec R} (h : AllG G g) (i : Nat) {v : R} (hv : G v) : AllG G (g.set i v) := by
  intro k
  by_cases hi : i < g.length
  · rw [rd_set_lt g i k v hi]
    split
    · exact hv
    · exact h k
  · rw [List.set_eq_of_length_le (Nat.le_of_not_lt hi)]
    exact h k

theorem allG_replicate {G : R → Prop} (h0 : G 0) (N : Nat) : AllG G (List.replicate N (0 : R)) := by
  intro k
  rw [rd_replicate_zero]
  exact h0

theorem allG_nil {G : R → Prop} (h0 : G 0) : AllG G ([] : Vec R) :=
  allG_replicate h0 0

theorem allG_unit {G : R → Prop} (h0 : G 0) (h1 : G 1) (N x : Nat) : AllG G (unit N x : Vec R) :=
  (allG_replicate h0 N).set x h1

section Good
variable {nz : R → Bool} {G Mok : R → Prop}

theorem allG_scatter (ok : SkipOK nz G Mok) (ops : List (R × Nat)) (a : R) (g : Vec R)
    (hg : AllG G g) (ha : G a) (hm : ∀ p ∈ ops, Mok p.1) : AllG G (scatter ops a g) := by
  unfold scatter
  induction ops generalizing g with
  | nil => exact hg
  | cons p ops ih =>
    rw [List.foldl_cons]
    apply ih _ _ (fun q hq => hm q (List.mem_cons_of_mem _ hq))
    unfold scatterStep
    exact hg.set _ (ok.acc _ _ _ (hg p.2) (hm p (List.mem_cons_self ..)) ha)

theorem set_rd_self (g : Vec R) (i : Nat) : g.set i (rd g i) = g := by
  by_cases hi : i < g.length
  · rw [rd_eq_getElem g i hi]
    exact List.set_getElem_self hi
  · exact List.set_eq_of_length_le (Nat.le_of_not_lt hi)

theorem scatter_skip (ok : SkipOK nz G Mok) (ops : List (R × Nat)) (a : R) (g : Vec R)
    (hg : AllG G g) (ha : nz a = false) (hm : ∀ p ∈ ops, Mok p.1) : scatter ops a g = g := by
  unfold scatter
  induction ops with
  | nil => rfl
  | cons p ops ih =>
    rw [List.foldl_cons]
    have : scatterStep a g p = g := by
      unfold scatterStep
      rw [ok.skip _ _ _ (hg p.2) (hm p (List.mem_cons_self ..)) ha, set_rd_self]
    rw [this]
    exact ih (fun q hq => hm q (List.mem_cons_of_mem _ hq))

theorem allG_revStepZ (ok : SkipOK nz G Mok) (s : Stmt R) (g : Vec R) (hg : AllG G g)
    (hm : ∀ p ∈ s.ops, Mok p.1) : AllG G (revStepZ nz s g) := by
  unfold revStepZ
  simp only
  split
  · exact allG_scatter ok _ _ _ (hg.set _ ok.zero) (hg _) hm
  · exact hg.set _ ok.zero

theorem kernelRevB_of_good (ok : SkipOK nz G Mok) (t : List (Stmt R)) (nl : Nat) (b : Buf R)
    (hb : ∀ i (h : i < b.length), AllG G b[i]) (hm : ∀ s ∈ t, ∀ p ∈ s.ops, Mok p.1) :
    kernelRevB nz t nl b = lanewise nl (revZ nz t) b := by
  refine kernelRevB_lanewise nz (AllG G) t nl (fun s hs g hg => allG_revStepZ ok s g hg (hm s hs)) ?_ b hb
  intro s hs b hb i h hi
  refine revLaneB_eq nz _ s _ (fun hgo => ?_) (fun _ hz => ?_)
  · rw [← getD_eq_getElem b [] h]
    exact anyNz_false nz b nl s.lhs i hgo hi
  · exact scatter_skip ok _ _ _ ((hb i h).set _ ok.zero) hz (hm s hs)

theorem revVal_of_good (ok : SkipOK nz G Mok) (t : List (Stmt R)) (c : JacCfg) (indep dep : List Nat) (a b : Nat)
    (hW : 0 < c.W) (hb : b < dep.length) (hm : ∀ s ∈ t, ∀ p ∈ s.ops, Mok p.1) :
    revVal nz t c indep dep a b = entryRev nz t c.maxGrad (indep.getD a 0) (dep.getD b 0) := by
  refine revVal_eq nz t c indep dep a b hW hb (fun first sz hsz => kernelRevB_of_good ok t sz _ ?_ hm)
  intro i h
  obtain ⟨hl, hg⟩ := seedBlock_spec (R := R) c.W c.maxGrad dep first sz hsz
  rw [← getD_eq_getElem _ [] h, hg i (hl ▸ h)]
  split
  · exact allG_unit ok.zero ok.one _ _
  · exact allG_replicate ok.zero _

end Good

/-! ### over a commutative ring the law-free layer is the ring layer -/

section Ring
variable {S : Type} [CommRing S] [DecidableEq S]

theorem unit_eq (N x : Nat) : (unit N x : Vec S) = Adept.Tape.unit N x := rfl

theorem entryFwd_eq (t : List (Stmt S)) (N x y : Nat) : entryFwd t N x y = jacEntryFwd t N x y := rfl

/-- `revStep` is `revStepZ` with the test `a ≠ 0` -/
theorem revStepZ_decide (s : Stmt S) (g : Vec S) : revStepZ (fun a => decide (a ≠ 0)) s g = revStep s g := by
  unfold revStepZ revStep
  simp only
  by_cases h : rd g s.lhs = 0
  · simp [h]
  · simp [h]

theorem revZ_decide (t : List (Stmt S)) : revZ (fun a : S => decide (a ≠ 0)) t = rev t := by
  funext g
  unfold revZ rev
  induction t with
  | nil => rfl
  | cons s t ih => rw [List.foldr_cons, List.foldr_cons, ih, revStepZ_decide]

theorem entryRev_eq (t : List (Stmt S)) (N x y : Nat) :
    entryRev (fun a => decide (a ≠ 0)) t N x y = jacEntryRev t N x y := by
  unfold entryRev
  rw [revZ_decide]
  rfl

theorem ring_skip (x m a : S) (h : decide (a ≠ 0) = false) : x + m * a = x := by
  have : a = 0 := by simpa using h
  rw [this, mul_zero, add_zero]

theorem kernelRevB_ring (t : List (Stmt S)) (nl : Nat) (b : Buf S) :
    kernelRevB (fun a => decide (a ≠ 0)) t nl b = kernelRev t nl b := by
  rw [kernelRevB_of_good (SkipOK.of_skip ring_skip) t nl b (fun _ _ _ => trivial) (fun _ _ _ _ => trivial),
    revZ_decide, kernelRev_eq_lanewise]

theorem revBlockB_ring (t : List (Stmt S)) (c : JacCfg) (indep dep : List Nat) (first size nl : Nat) (out : Out S) :
    revBlockB (fun a => decide (a ≠ 0)) t c indep dep first size nl out = revBlock t c indep dep first size nl out := by
  unfold revBlockB revBlock
  simp only [kernelRevB_ring]

theorem jacRevSerialB_ring (t : List (Stmt S)) (c : JacCfg) (indep dep : List Nat) (out : Out S) :
    jacRevSerialB (fun a => decide (a ≠ 0)) t c indep dep out = jacRevSerial t c indep dep out := by
  unfold jacRevSerialB jacRevSerial
  simp only [revBlockB_ring]

theorem jacRevOmpB_ring (t : List (Stmt S)) (c : JacCfg) (indep dep : List Nat) (sched : List Nat) (out : Out S) :
    jacRevOmpB (fun a => decide (a ≠ 0)) t c indep dep sched out = jacRevOmp t c indep dep sched out := by
  unfold jacRevOmpB jacRevOmp
  simp only [revBlockB_ring]

end Ring

end LF
end Adept.Tape
