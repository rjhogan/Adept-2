import AdeptModel.Simd
import AdeptProofs.Lemmas.Basic
/-!
# The SIMD loop partition (C05), for every packet size `W > 0`

Every plan splits a row into head, whole packets and tail (`Plan.Splits`); an answer of the negotiation other than `-1` is shared by
every leaf that cares (`negotiate_spec`, `leaves_aligned`); outer offsets that are multiples of `W` keep every row start aligned
(`columnsAligned_sound`, `fixedContig_sound`); the lanes hold the body exactly once (`lanes_perm`).  Core Lean only.
-/
namespace Adept.Simd

theorem arrOffset_lt {W : Nat} (a : Nat) (hW : 0 < W) : arrOffset W a < W := Nat.mod_lt _ hW

theorem arrOffset_aligned {W : Nat} (a : Nat) (hW : 0 < W) : (a + arrOffset W a) % W = 0 := by
  unfold arrOffset
  rw [Nat.add_mod, Nat.mod_mod]
  have hr := Nat.mod_lt a hW
  generalize a % W = r at hr
  by_cases h0 : r = 0
  · rw [h0, Nat.sub_zero, Nat.mod_self, Nat.add_zero, Nat.zero_mod]
  · rw [Nat.mod_eq_of_lt (Nat.sub_lt hW (Nat.pos_of_ne_zero h0)), Nat.add_sub_of_le (Nat.le_of_lt hr), Nat.mod_self]

/-- two offsets below `W` that lead to the same residue differ by a multiple of `W` smaller than `W` -/
theorem offset_eq_of_mod_eq {W a o s : Nat} (hle : o ≤ s) (hs : s < W) (h : (a + s) % W = (a + o) % W) : s = o := by
  have hd := Nat.sub_mod_eq_zero_of_mod_eq h
  rw [Nat.add_sub_add_left, Nat.mod_eq_of_lt (by omega)] at hd
  omega

theorem arrOffset_unique {W a s : Nat} (hW : 0 < W) (hs : s < W) (h : (a + s) % W = 0) : s = arrOffset W a := by
  have ho := arrOffset_aligned a hW
  rcases Nat.le_total (arrOffset W a) s with hle | hle
  · exact offset_eq_of_mod_eq hle hs (h.trans ho.symm)
  · exact (offset_eq_of_mod_eq hle (arrOffset_lt a hW) (ho.trans h.symm)).symm

theorem iendOf_spec {W n s : Nat} (hW : 0 < W) (hs : s ≤ n) :
    s ≤ iendOf W n s ∧ iendOf W n s ≤ n ∧ W ∣ (iendOf W n s - s) ∧ n - iendOf W n s < W := by
  obtain ⟨h1, h2, h3⟩ := floor_spec hW (n - s)
  unfold iendOf
  rw [Nat.add_sub_cancel]
  generalize n - s - (n - s) % W = m at h1 h2 h3
  exact ⟨Nat.le_add_left _ _, by omega, h1, by omega⟩

theorem iendOf_ge {W n s : Nat} (hW : 0 < W) (hs : s < W) (hn : 2 * W ≤ n) : s + W ≤ iendOf W n s := by
  obtain ⟨h1, _, h3⟩ := floor_spec hW (n - s)
  unfold iendOf
  generalize n - s - (n - s) % W = m at h1 h3
  have := Nat.le_of_dvd (by omega) h1
  omega

/-- head shorter than a packet, a whole number of packets, and the tail shorter than a packet too when there is a body -/
def Plan.Splits (p : Plan) (W n rows : Nat) : Prop :=
  p.istart ≤ p.iend ∧ p.iend ≤ n ∧ W ∣ (p.iend - p.istart) ∧ p.istart < W ∧
  p.packets = rows * ((p.iend - p.istart) / W) ∧ (p.istart < p.iend → n - p.iend < W)

theorem splits_zero {W : Nat} (hW : 0 < W) (vec : Bool) (n rows : Nat) : Plan.Splits ⟨vec, 0, 0, 0⟩ W n rows :=
  ⟨Nat.le_refl _, Nat.zero_le _, Nat.dvd_zero _, hW, by rw [Nat.sub_self, Nat.zero_div, Nat.mul_zero],
   fun h => absurd h (Nat.lt_irrefl _)⟩

theorem planCore_fallback {W n rows : Nat} {s : Int} {tgt : Option Nat} (h : s < 0 ∨ tgtMismatch s tgt) :
    planCore W n rows s tgt = ⟨true, 0, 0, 0⟩ :=
  if_pos h

theorem planCore_run {W n rows : Nat} {s : Int} {tgt : Option Nat} (h : ¬ (s < 0 ∨ tgtMismatch s tgt)) :
    planCore W n rows s tgt
      = ⟨true, s.toNat, iendOf W n s.toNat, rows * ((iendOf W n s.toNat - s.toNat) / W)⟩ ∧ (s.toNat : Int) = s :=
  ⟨if_neg h, Int.toNat_of_nonneg (Int.not_lt.1 fun hs => h (Or.inl hs))⟩

theorem planCore_body {W n rows : Nat} {s : Int} {tgt : Option Nat}
    (h : (planCore W n rows s tgt).istart < (planCore W n rows s tgt).iend) : ¬ (s < 0 ∨ tgtMismatch s tgt) := by
  intro hf
  rw [planCore_fallback hf] at h
  exact Nat.lt_irrefl _ h

theorem planCore_splits {W n rows : Nat} {s : Int} {tgt : Option Nat} (hW : 0 < W) (hs : s < W) (hn : 2 * W ≤ n) :
    (planCore W n rows s tgt).Splits W n rows := by
  by_cases h : s < 0 ∨ tgtMismatch s tgt
  · rw [planCore_fallback h]
    exact splits_zero hW _ _ _
  · obtain ⟨he, his⟩ := planCore_run (W := W) (n := n) (rows := rows) h
    rw [he]
    have hlt : s.toNat < W := by omega
    obtain ⟨h1, h2, h3, h4⟩ := iendOf_spec (W := W) (n := n) (s := s.toNat) hW (by omega)
    exact ⟨h1, h2, h3, hlt, rfl, fun _ => h4⟩

/-- an `Array`, the argument of `Spread`, the right vector of `OuterProduct` -/
def Expr.arrLeaves : Expr → List View
  | .arr v => [v]
  | .fixed _ _ => []
  | .agn => []
  | .spread _ v => [v]
  | .outer _ r => [r]
  | .plain => []
  | .un _ e => e.arrLeaves
  | .bin _ l r => l.arrLeaves ++ r.arrLeaves

/-- the `FixedArray` leaves: address and extents -/
def Expr.fixedLeaves : Expr → List (Nat × List Nat)
  | .arr _ => []
  | .fixed a d => [(a, d)]
  | .agn => []
  | .spread _ _ => []
  | .outer _ _ => []
  | .plain => []
  | .un _ e => e.fixedLeaves
  | .bin _ l r => l.fixedLeaves ++ r.fixedLeaves

/-- what every leaf answers to `alignment_offset_<W>()` -/
def Expr.leafOffs (cfg : Cfg) (W : Nat) : Expr → List Int
  | .arr v => [(arrOffset W v.a : Int)]
  | .fixed a _ => [(fixedOffset cfg W a : Int)]
  | .agn => [(W : Int)]
  | .spread _ v => [(arrOffset W v.a : Int)]
  | .outer _ r => [(arrOffset W r.a : Int)]
  | .plain => [(W : Int)]
  | .un _ e => e.leafOffs cfg W
  | .bin _ l r => l.leafOffs cfg W ++ r.leafOffs cfg W

theorem fixedOffset_lt {cfg : Cfg} {W : Nat} (a : Nat) (hW : 0 < W) : fixedOffset cfg W a < W := by
  unfold fixedOffset; split <;> exact Nat.mod_lt _ hW

theorem leafOffs_range {cfg : Cfg} {W : Nat} (hW : 0 < W) (e : Expr) :
    ∀ o ∈ e.leafOffs cfg W, 0 ≤ o ∧ o ≤ W := by
  have leaf {x : Nat} (h : x ≤ W) : ∀ o ∈ [(x : Int)], 0 ≤ o ∧ o ≤ W := by
    intro o ho
    rw [List.mem_singleton.1 ho]
    omega
  induction e with
  | arr v => exact leaf (Nat.le_of_lt (arrOffset_lt v.a hW))
  | fixed a _ => exact leaf (Nat.le_of_lt (fixedOffset_lt a hW))
  | agn => exact leaf (Nat.le_refl W)
  | spread _ v => exact leaf (Nat.le_of_lt (arrOffset_lt v.a hW))
  | outer _ r => exact leaf (Nat.le_of_lt (arrOffset_lt r.a hW))
  | plain => exact leaf (Nat.le_refl W)
  | un _ e ih => exact ih
  | bin _ l r ihl ihr =>
    intro o ho
    exact (List.mem_append.1 ho).elim (ihl o) (ihr o)

/-- `BinaryOperation::alignment_offset_<n>()` on two answers -/
theorem negotiate_spec {W lo ro k : Int}
    (hk : (if lo = ro then lo else if lo = W then ro else if ro = W then lo else -1) = k) :
    (k = -1 ∨ k = lo ∨ k = ro) ∧ (k ≠ -1 → (lo = k ∨ lo = W) ∧ (ro = k ∨ ro = W)) := by
  by_cases h1 : lo = ro
  · rw [if_pos h1] at hk
    subst hk
    exact ⟨Or.inr (Or.inl rfl), fun _ => ⟨Or.inl rfl, Or.inl h1.symm⟩⟩
  · rw [if_neg h1] at hk
    by_cases h2 : lo = W
    · rw [if_pos h2] at hk
      subst hk
      exact ⟨Or.inr (Or.inr rfl), fun _ => ⟨Or.inr h2, Or.inl rfl⟩⟩
    · rw [if_neg h2] at hk
      by_cases h3 : ro = W
      · rw [if_pos h3] at hk
        subst hk
        exact ⟨Or.inr (Or.inl rfl), fun _ => ⟨Or.inl rfl, Or.inr h3⟩⟩
      · rw [if_neg h3] at hk
        exact ⟨Or.inl hk.symm, fun hne => absurd hk.symm hne⟩

/-- the answer of the whole tree: `-1`, or an offset that every leaf either shares or does not care about -/
theorem alignOff_leaves {cfg : Cfg} {W : Nat} (e : Expr) :
    ∀ k : Int, e.alignOff cfg W = k → k ≠ -1 → ∀ o ∈ e.leafOffs cfg W, o = k ∨ o = W := by
  induction e with
  | un _ e ih => exact ih
  | bin _ l r ihl ihr =>
    intro k hk hne o ho
    obtain ⟨hl, hr⟩ := (negotiate_spec hk).2 hne
    have hW1 : (W : Int) ≠ -1 := by omega
    -- a side that answered `W` has only leaves that answer `W`
    have side {x : Expr} (ih : ∀ k : Int, x.alignOff cfg W = k → k ≠ -1 → ∀ o ∈ x.leafOffs cfg W, o = k ∨ o = W)
        (hx : x.alignOff cfg W = k ∨ x.alignOff cfg W = W) (h : o ∈ x.leafOffs cfg W) : o = k ∨ o = W :=
      hx.elim (fun hx => ih k hx hne o h) fun hx => Or.inr ((ih W hx hW1 o h).elim id id)
    exact (List.mem_append.1 ho).elim (side ihl hl) (side ihr hr)
  -- a leaf's list of answers is its own answer
  | _ => intro k hk _ o ho; exact Or.inl ((List.mem_singleton.1 ho).trans hk)

theorem alignOff_mem {cfg : Cfg} {W : Nat} (e : Expr) :
    e.alignOff cfg W = -1 ∨ e.alignOff cfg W ∈ e.leafOffs cfg W := by
  induction e with
  | un _ e ih => exact ih
  | bin _ l r ihl ihr =>
    simp only [Expr.alignOff, Expr.leafOffs, List.mem_append]
    rcases (negotiate_spec (W := W) (lo := l.alignOff cfg W) (ro := r.alignOff cfg W) rfl).1 with h | h | h
    · exact Or.inl h
    · rw [h]
      exact ihl.imp_right Or.inl
    · rw [h]
      exact ihr.imp_right Or.inr
  | _ => exact Or.inr (List.mem_singleton_self _)

theorem alignOff_range {cfg : Cfg} {W : Nat} (hW : 0 < W) (e : Expr) :
    e.alignOff cfg W = -1 ∨ (0 ≤ e.alignOff cfg W ∧ e.alignOff cfg W ≤ W) :=
  (alignOff_mem e).imp_right (leafOffs_range hW e _)

theorem alignmentOffset_lt {cfg : Cfg} {W : Nat} (hW : 0 < W) (e : Expr) : e.alignmentOffset cfg W < W := by
  unfold Expr.alignmentOffset
  show (if e.alignOff cfg W < W then e.alignOff cfg W else 0) < (W : Int)
  split
  · assumption
  · omega

/-- `Expression::alignment_offset()` returns `k ≥ 0` only if every leaf has offset `k` or is agnostic -/
theorem alignmentOffset_leaves {cfg : Cfg} {W : Nat} (hW : 0 < W) (e : Expr) (k : Int)
    (hk : e.alignmentOffset cfg W = k) (h0 : 0 ≤ k) : ∀ o ∈ e.leafOffs cfg W, o = k ∨ o = W := by
  unfold Expr.alignmentOffset at hk
  have hk' : (if e.alignOff cfg W < W then e.alignOff cfg W else 0) = k := hk
  by_cases h : e.alignOff cfg W < W
  · rw [if_pos h] at hk'
    exact alignOff_leaves e k hk' (by omega)
  · rw [if_neg h] at hk'
    have hW' : e.alignOff cfg W = W := by
      rcases alignOff_range (cfg := cfg) hW e with h' | h' <;> omega
    intro o ho
    rcases alignOff_leaves e (W : Int) hW' (by omega) o ho with h' | h' <;> exact Or.inr h'

theorem arrLeaves_offs {cfg : Cfg} {W : Nat} (e : Expr) :
    ∀ v ∈ e.arrLeaves, (arrOffset W v.a : Int) ∈ e.leafOffs cfg W := by
  induction e with
  | un _ e ih => exact ih
  | bin _ l r ihl ihr =>
    intro v hv
    exact (List.mem_append.1 hv).elim (fun h => List.mem_append_left _ (ihl v h)) fun h => List.mem_append_right _ (ihr v h)
  | _ => simp [Expr.arrLeaves, Expr.leafOffs]

theorem fixedLeaves_offs {cfg : Cfg} {W : Nat} (e : Expr) :
    ∀ p ∈ e.fixedLeaves, (fixedOffset cfg W p.1 : Int) ∈ e.leafOffs cfg W := by
  induction e with
  | un _ e ih => exact ih
  | bin _ l r ihl ihr =>
    intro p hp
    exact (List.mem_append.1 hp).elim (fun h => List.mem_append_left _ (ihl p h)) fun h => List.mem_append_right _ (ihr p h)
  | _ => simp [Expr.fixedLeaves, Expr.leafOffs]

theorem allContig_arr {cfg : Cfg} {W : Nat} (e : Expr) (h : e.allContig cfg W = true) :
    ∀ v ∈ e.arrLeaves, arrContig cfg W v = true := by
  induction e with
  | un _ e ih => exact ih h
  | bin _ l r ihl ihr =>
    rw [Expr.allContig, Bool.and_eq_true] at h
    intro v hv
    exact (List.mem_append.1 hv).elim (ihl h.1 v) (ihr h.2 v)
  | arr v | spread _ v | outer _ v => simpa [Expr.arrLeaves, Expr.allContig] using h
  | _ => simp [Expr.arrLeaves]

theorem allContig_fixed {cfg : Cfg} {W : Nat} (e : Expr) (h : e.allContig cfg W = true) :
    ∀ p ∈ e.fixedLeaves, fixedContig cfg W p.2 = true := by
  induction e with
  | un _ e ih => exact ih h
  | bin _ l r ihl ihr =>
    rw [Expr.allContig, Bool.and_eq_true] at h
    intro p hp
    exact (List.mem_append.1 hp).elim (ihl h.1 p) (ihr h.2 p)
  | fixed a d => simpa [Expr.fixedLeaves, Expr.allContig] using h
  | _ => simp [Expr.fixedLeaves]

/-- an `Array` leaf answers its own distance to the boundary, below `W`, so it answered `s`
    (`FixedArray`: only with the repaired `alignment_offset_`) -/
theorem leaves_aligned {cfg : Cfg} {W : Nat} (hW : 0 < W) (e : Expr) (s : Nat) (hs : e.alignmentOffset cfg W = (s : Int)) :
    (∀ v ∈ e.arrLeaves, (v.a + s) % W = 0) ∧
    (cfg.fixedToBoundary = true → ∀ q ∈ e.fixedLeaves, (q.1 + s) % W = 0) := by
  have hl := alignmentOffset_leaves hW e s hs (by omega)
  refine ⟨fun v hv => ?_, fun hfix q hq => ?_⟩
  · have hlt := arrOffset_lt v.a hW
    have : arrOffset W v.a = s := by
      rcases hl _ (arrLeaves_offs e v hv) with h | h <;> omega
    rw [← this]
    exact arrOffset_aligned v.a hW
  · have hfo : fixedOffset cfg W q.1 = arrOffset W q.1 := by
      unfold fixedOffset arrOffset
      rw [if_pos hfix]
    have hlt := arrOffset_lt q.1 hW
    have hm := hl _ (fixedLeaves_offs e q hq)
    rw [hfo] at hm
    have : arrOffset W q.1 = s := by
      rcases hm with h | h <;> omega
    rw [← this]
    exact arrOffset_aligned q.1 hW

theorem assignPlan_eq (cfg : Cfg) (W : Nat) (t : View) (rhs : Expr) :
    assignPlan cfg W t rhs = Plan.scalar ∨
    (1 < W ∧ 2 * W ≤ t.n ∧ arrContig cfg W t = true ∧ rhs.allContig cfg W = true ∧
      assignPlan cfg W t rhs
        = planCore W t.n (rowsOf t.outerDims) (rhs.alignmentOffset cfg W) (some (arrOffset W t.a))) := by
  unfold assignPlan
  by_cases hW : W ≤ 1
  · exact Or.inl (if_pos hW)
  · rw [if_neg hW]
    by_cases hc : (rhs.vectorizable && decide (2 * W ≤ t.n) && arrContig cfg W t && rhs.allContig cfg W) = true
    · rw [if_pos hc]
      simp only [Bool.and_eq_true, decide_eq_true_eq] at hc
      exact Or.inr ⟨by omega, hc.1.1.2, hc.1.2, hc.2, rfl⟩
    · exact Or.inl (if_neg hc)

theorem reducePlan_eq (cfg : Cfg) (W : Nat) (outerDims : List Nat) (n : Nat) (rhs : Expr) :
    reducePlan cfg W outerDims n rhs = Plan.scalar ∨
    (1 < W ∧ 2 * W ≤ n ∧
      reducePlan cfg W outerDims n rhs = planCore W n (rowsOf outerDims) (rhs.alignmentOffset cfg W) none) := by
  unfold reducePlan
  by_cases hW : W ≤ 1
  · exact Or.inl (if_pos hW)
  · rw [if_neg hW]
    by_cases hc : (rhs.vectorizable && decide (2 * W ≤ n) && rhs.allContig cfg W) = true
    · rw [if_pos hc]
      simp only [Bool.and_eq_true, decide_eq_true_eq] at hc
      exact Or.inr ⟨by omega, hc.1.2, rfl⟩
    · exact Or.inl (if_neg hc)

theorem assignPlan_splits (cfg : Cfg) {W : Nat} (hW : 0 < W) (t : View) (rhs : Expr) :
    (assignPlan cfg W t rhs).Splits W t.n (rowsOf t.outerDims) := by
  rcases assignPlan_eq cfg W t rhs with h | ⟨_, hn, _, _, h⟩
  · rw [h]
    exact splits_zero hW _ _ _
  · rw [h]
    exact planCore_splits hW (alignmentOffset_lt hW rhs) hn

theorem reducePlan_splits (cfg : Cfg) {W : Nat} (hW : 0 < W) (outerDims : List Nat) (n : Nat) (rhs : Expr) :
    (reducePlan cfg W outerDims n rhs).Splits W n (rowsOf outerDims) := by
  rcases reducePlan_eq cfg W outerDims n rhs with h | ⟨_, hn, h⟩
  · rw [h]
    exact splits_zero hW _ _ _
  · rw [h]
    exact planCore_splits hW (alignmentOffset_lt hW rhs) hn

theorem assignPlan_body {cfg : Cfg} {W : Nat} {t : View} {rhs : Expr}
    (h : (assignPlan cfg W t rhs).istart < (assignPlan cfg W t rhs).iend) :
    arrContig cfg W t = true ∧ rhs.allContig cfg W = true ∧
    rhs.alignmentOffset cfg W = ((assignPlan cfg W t rhs).istart : Int) ∧
    (assignPlan cfg W t rhs).istart = arrOffset W t.a := by
  rcases assignPlan_eq cfg W t rhs with he | ⟨_, _, hct, hcr, he⟩
  · rw [he] at h
    exact absurd h (Nat.lt_irrefl _)
  · rw [he] at h ⊢
    have hb := planCore_body h
    obtain ⟨hr, his⟩ := planCore_run (W := W) (n := t.n) (rows := rowsOf t.outerDims) hb
    have hst : rhs.alignmentOffset cfg W = (arrOffset W t.a : Int) := Decidable.of_not_not fun hm => hb (Or.inr hm)
    rw [hr]
    exact ⟨hct, hcr, his.symm, Int.natCast_inj.1 (his.trans hst)⟩

theorem reducePlan_body {cfg : Cfg} {W : Nat} {outerDims : List Nat} {n : Nat} {rhs : Expr}
    (h : (reducePlan cfg W outerDims n rhs).istart < (reducePlan cfg W outerDims n rhs).iend) :
    rhs.alignmentOffset cfg W = ((reducePlan cfg W outerDims n rhs).istart : Int) := by
  rcases reducePlan_eq cfg W outerDims n rhs with he | ⟨_, _, he⟩
  · rw [he] at h
    exact absurd h (Nat.lt_irrefl _)
  · rw [he] at h ⊢
    obtain ⟨hr, his⟩ := planCore_run (W := W) (n := n) (rows := rowsOf outerDims) (planCore_body h)
    rw [hr]
    exact his.symm

/-- memory index of the first element of the row selected by the outer indices `idx`:
    `Σ idx[k]*offset_[k]` (`Array::index_` with a zero last index) -/
def rowStart : List Int → List Nat → Int
  | o :: os, i :: is => o * i + rowStart os is
  | _, _ => 0

theorem rowStart_dvd {W : Int} : ∀ (outer : List Int) (idx : List Nat),
    (∀ o ∈ outer, W ∣ o) → W ∣ rowStart outer idx
  | [], _, _ => by simp [rowStart]
  | _ :: _, [], _ => by simp [rowStart]
  | o :: os, i :: is, h => by
    simp only [rowStart]
    apply Int.dvd_add
    · exact Int.dvd_trans (h o (List.mem_cons_self ..)) (Int.dvd_mul_right _ _)
    · exact rowStart_dvd os is (fun o' ho' => h o' (List.mem_cons_of_mem _ ho'))

theorem aligned_shift {W a s : Nat} {r : Int} (j : Nat) (h : (a + s) % W = 0) (hr : (W : Int) ∣ r) :
    ((a : Int) + r + s + j * W) % (W : Int) = 0 := by
  obtain ⟨q, hq⟩ := hr
  have h1 : ((a + s : Nat) : Int) % (W : Int) = 0 := by
    have := congrArg (fun x : Nat => (x : Int)) h
    simpa using this
  have h2 : (a : Int) + r + s + j * W = ((a + s : Nat) : Int) + (W : Int) * (q + j) := by
    rw [hq, Int.mul_add]; simp only [Int.natCast_add]; rw [Int.mul_comm (j : Int) (W : Int)]; omega
  rw [h2, Int.add_mul_emod_self_left]; exact h1

theorem outerOffsets_dvd (pitch : Nat) : ∀ (ds : List Nat), ∀ o ∈ outerOffsets pitch ds, pitch ∣ o
  | [] => by simp [outerOffsets]
  | [_] => by simp [outerOffsets]
  | _ :: d1 :: ds => by
    intro o ho
    have ih := outerOffsets_dvd pitch (d1 :: ds)
    simp only [outerOffsets] at ho
    split at ho
    · simp at ho
    · rename_i o1 os heq
      rw [heq] at ih
      simp only [List.mem_cons] at ho
      rcases ho with h | h | h
      · rw [h]; exact Nat.dvd_trans (ih o1 (List.mem_cons_self ..)) (Nat.dvd_mul_left _ _)
      · rw [h]; exact ih o1 (List.mem_cons_self ..)
      · exact ih o (List.mem_cons_of_mem _ h)

theorem outerOffsets_length (pitch : Nat) : ∀ (ds : List Nat), (outerOffsets pitch ds).length = ds.length
  | [] => by simp [outerOffsets]
  | [_] => by simp [outerOffsets]
  | d0 :: d1 :: ds => by
    have ih := outerOffsets_length pitch (d1 :: ds)
    simp only [outerOffsets]
    split
    · rename_i heq; rw [heq] at ih; simp at ih
    · rename_i o1 os heq; rw [heq] at ih; simp only [List.length_cons] at ih ⊢; omega

theorem rowPitch_spec {W n : Nat} (hW : 0 < W) :
    n ≤ rowPitch W n ∧ rowPitch W n < n + W ∧ (2 * W ≤ n → W ∣ rowPitch W n) ∧ (n < 2 * W → rowPitch W n = n) := by
  unfold rowPitch
  by_cases h : 2 * W ≤ n
  · obtain ⟨h1, h2, h3⟩ := ceil_spec hW n
    rw [if_pos h]
    exact ⟨h2, h3, fun _ => h1, fun h' => absurd h (Nat.not_le.2 h')⟩
  · rw [if_neg h]
    exact ⟨Nat.le_refl _, Nat.lt_add_of_pos_right hW, fun h' => absurd h' h, fun _ => rfl⟩

/-- the test `columns_aligned_` performs establishes that every outer offset is a multiple of `W`, provided the
    array has at most two dimensions or the repaired form (all outer offsets tested) is in the tree -/
theorem columnsAligned_sound {cfg : Cfg} {W : Nat} {outer : List Int} (hW : 1 < W)
    (h : columnsAligned cfg W outer = true) (hr : outer.length ≤ 1 ∨ cfg.allOuterChecked = true) :
    ∀ o ∈ outer, (W : Int) ∣ o := by
  unfold columnsAligned at h
  rw [if_neg (by omega)] at h
  by_cases hc : cfg.allOuterChecked = true
  · rw [if_pos hc] at h
    intro o ho
    have := List.all_eq_true.mp h o ho
    exact Int.dvd_of_emod_eq_zero (by simpa using this)
  · rw [if_neg hc] at h
    rcases hr with hr | hr
    · match outer, hr, h with
      | [], _, _ => intro o ho; simp at ho
      | [o1], _, h =>
        intro o ho; simp only [List.mem_singleton] at ho; subst ho
        simp only [List.getLast?_singleton] at h
        exact Int.dvd_of_emod_eq_zero (by simpa using h)
      | _ :: _ :: _, hr, _ => simp only [List.length_cons] at hr; omega
    · exact absurd hr hc

/-- outer offsets of a `FixedArray` with extents `dims` (contiguous storage) -/
def fixedOuter (dims : List Nat) : List Int :=
  match dims.getLast? with
  | none => []
  | some n => (packContiguous dims.dropLast n).map (fun x : Nat => (x : Int))

/-- the repaired `FixedArray::all_arrays_contiguous_`: there is no outer offset (rank < 2), or each is a multiple of the last
    extent, which was tested -/
theorem fixedContig_sound {cfg : Cfg} {W : Nat} {dims : List Nat} (hc : cfg.fixedRowsChecked = true)
    (h : fixedContig cfg W dims = true) : ∀ o ∈ fixedOuter dims, (W : Int) ∣ o := by
  intro o ho
  unfold fixedOuter at ho
  unfold fixedContig at h
  simp only [hc, if_true, Bool.or_eq_true, decide_eq_true_eq] at h
  cases hg : dims.getLast? with
  | none =>
    rw [hg] at ho
    exact absurd ho List.not_mem_nil
  | some n =>
    rw [hg] at ho h
    obtain ⟨x, hx, rfl⟩ := List.mem_map.1 ho
    rcases h with hlen | hmod
    · have : dims.dropLast = [] := List.eq_nil_of_length_eq_zero (by rw [List.length_dropLast]; omega)
      rw [this] at hx
      exact absurd hx List.not_mem_nil
    · have hWn : W ∣ n := Nat.dvd_of_mod_eq_zero (by simpa using hmod)
      exact Int.natCast_dvd_natCast.mpr (Nat.dvd_trans hWn (outerOffsets_dvd _ _ x hx))

theorem flatten_map_append_singleton {α β : Type} (A : β → List α) (g : β → α) :
    ∀ L : List β, ((L.map (fun l => A l ++ [g l])).flatten).Perm ((L.map A).flatten ++ L.map g)
  | [] => by simp
  | x :: L => by
    have ih := flatten_map_append_singleton A g L
    simp only [List.map_cons, List.flatten_cons, List.append_assoc]
    apply List.Perm.append_left
    have h1 : ([g x] ++ (L.map (fun l => A l ++ [g l])).flatten).Perm (g x :: ((L.map A).flatten ++ L.map g)) := by
      simp only [List.singleton_append]; exact List.Perm.cons _ ih
    exact h1.trans List.perm_middle.symm

theorem laneIdx_succ (W istart P l : Nat) :
    laneIdx W istart (P + 1) l = laneIdx W istart P l ++ [istart + P * W + l] := by
  unfold laneIdx; rw [List.range_succ, List.map_append]; rfl

/-- the lanes of the packet accumulator together hold exactly the body `[istart, istart + P*W)` -/
theorem lanes_perm (W istart : Nat) : ∀ P : Nat,
    ((lanesIdx W istart P).flatten).Perm (List.range' istart (P * W))
  | 0 => by
    have : (lanesIdx W istart 0).flatten = [] := by
      unfold lanesIdx laneIdx; simp
    rw [this]; simp
  | P + 1 => by
    have ih := lanes_perm W istart P
    have h1 : lanesIdx W istart (P + 1)
        = (List.range W).map (fun l => laneIdx W istart P l ++ [istart + P * W + l]) := by
      unfold lanesIdx; apply List.map_congr_left; intro l _; exact laneIdx_succ W istart P l
    rw [h1]
    have h2 := flatten_map_append_singleton (laneIdx W istart P) (fun l => istart + P * W + l) (List.range W)
    have h3 : (List.range W).map (fun l => istart + P * W + l) = List.range' (istart + P * W) W := by
      rw [List.range_eq_range', List.map_add_range']
      simp
    have h4 : List.range' istart (P * W) ++ List.range' (istart + P * W) W = List.range' istart ((P + 1) * W) := by
      have := @List.range'_append istart (P * W) W 1
      rw [Nat.one_mul] at this
      rw [this, Nat.add_mul, Nat.one_mul]
    rw [← h4, ← h3]
    exact h2.trans (List.Perm.append_right _ ih)

theorem range_split {n istart iend : Nat} (h1 : istart ≤ iend) (h2 : iend ≤ n) :
    List.range n
      = List.range' 0 istart ++ (List.range' istart (iend - istart) ++ List.range' iend (n - iend)) := by
  rw [List.range_eq_range']
  have e1 := @List.range'_append istart (iend - istart) (n - iend) 1
  have e2 := @List.range'_append 0 istart ((iend - istart) + (n - iend)) 1
  rw [Nat.one_mul] at e1 e2
  have : istart + (iend - istart) = iend := by omega
  rw [this] at e1
  rw [e1]
  have : 0 + istart = istart := by omega
  rw [this] at e2
  rw [e2]
  congr 1; omega

theorem split_perm {W n istart iend : Nat} (h1 : istart ≤ iend) (h2 : iend ≤ n)
    (h3 : W ∣ (iend - istart)) :
    (scalarIdx n istart iend ++ (lanesIdx W istart ((iend - istart) / W)).flatten).Perm (List.range n) := by
  have hP : (iend - istart) / W * W = iend - istart := Nat.div_mul_cancel h3
  have hl := lanes_perm W istart ((iend - istart) / W)
  rw [hP] at hl
  rw [range_split h1 h2]
  unfold scalarIdx
  rw [List.append_assoc]
  apply List.Perm.append_left
  exact List.perm_append_comm.trans (List.Perm.append_right _ hl)

section value
variable {α : Type} (op : α → α → α) (e : α)

/-- fold of the elements selected by an index list, as the scalar loop does it -/
def foldIdx (x : Nat → α) (z : α) (L : List Nat) : α := L.foldl (fun acc i => op acc (x i)) z

variable (hassoc : ∀ a b c, op (op a b) c = op a (op b c)) (hcomm : ∀ a b, op a b = op b a)
  (hid : ∀ a, op e a = a)
include hassoc hcomm hid

theorem foldIdx_init (x : Nat → α) (z : α) (L : List Nat) : foldIdx op x z L = op z (foldIdx op x e L) := by
  have h := List.foldl_assoc (ha := ⟨hassoc⟩) (op := op) (l := L.map x) (a₁ := z) (a₂ := e)
  rwa [List.foldl_map, List.foldl_map, hcomm z e, hid] at h

theorem foldIdx_append (x : Nat → α) (L₁ L₂ : List Nat) :
    foldIdx op x e (L₁ ++ L₂) = op (foldIdx op x e L₁) (foldIdx op x e L₂) := by
  have : foldIdx op x e (L₁ ++ L₂) = foldIdx op x (foldIdx op x e L₁) L₂ := by
    simp only [foldIdx, List.foldl_append]
  rw [this, foldIdx_init op e hassoc hcomm hid]

omit hid in
theorem foldIdx_perm (x : Nat → α) {L₁ L₂ : List Nat} (h : L₁.Perm L₂) :
    foldIdx op x e L₁ = foldIdx op x e L₂ := by
  unfold foldIdx
  apply List.Perm.foldl_eq' h
  intro a _ b _ z
  rw [hassoc, hassoc, hcomm (x a) (x b)]

theorem fold_lanes (x : Nat → α) : ∀ (LL : List (List Nat)) (z : α),
    (LL.map (foldIdx op x e)).foldl op z = op z (foldIdx op x e LL.flatten)
  | [], z => by simp only [List.map_nil, List.foldl_nil, List.flatten_nil, foldIdx]; rw [hcomm, hid]
  | L :: LL, z => by
    simp only [List.map_cons, List.foldl_cons, List.flatten_cons]
    rw [fold_lanes x LL, foldIdx_append op e hassoc hcomm hid, hassoc]

end value

end Adept.Simd
