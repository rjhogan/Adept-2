import AdeptModel.Tape
import Mathlib.Algebra.Ring.Defs
/-! Vocabulary of the tape theorems (C02, C13) over a commutative ring; `unit`, `jacEntryFwd`, `JacSpec` unfold to their `LF.`
counterparts in `Lemmas/TapeLawFree.lean`. -/
namespace Adept.Tape

variable {R : Type} [CommRing R] [DecidableEq R]

/-- every index mentioned by the tape is below `N` -/
def WF (t : List (Stmt R)) (N : Nat) : Prop :=
  ∀ s ∈ t, s.lhs < N ∧ ∀ p ∈ s.ops, p.2 < N

/-- inner product of the first `N` entries -/
def dot (N : Nat) (u v : Vec R) : R := ((List.range N).map (fun k => rd u k * rd v k)).sum

/-- unit vector of length `N` -/
def unit (N x : Nat) : Vec R := (List.replicate N (0 : R)).set x 1

/-- Jacobian entry ∂(slot y)/∂(slot x) by a tangent-linear pass seeded with a unit vector -/
def jacEntryFwd (t : List (Stmt R)) (N x y : Nat) : R := rd (fwd t (unit N x)) y

/-- the same entry by an adjoint pass seeded with a unit vector -/
def jacEntryRev (t : List (Stmt R)) (N x y : Nat) : R := rd (rev t (unit N y)) x

/-- an output layout: cell of entry (i,j) = i*depOff + j*indepOff is injective on the m×n index set
    and stays inside a buffer of `len` cells -/
def LayoutOK (m n depOff indepOff len : Nat) : Prop :=
  (∀ i j, i < m → j < n → i * depOff + j * indepOff < len) ∧
  (∀ i j i' j', i < m → j < n → i' < m → j' < n →
      i * depOff + j * indepOff = i' * depOff + j' * indepOff → i = i' ∧ j = j')

/-- what a Jacobian routine must leave in the caller's buffer: entry (i,j) in its cell, every
    other cell untouched -/
def JacSpec (t : List (Stmt R)) (N : Nat) (indep dep : List Nat) (depOff indepOff : Nat)
    (out out' : Out R) : Prop :=
  out'.length = out.length ∧
  (∀ i j, i < dep.length → j < indep.length →
      rd out' (i * depOff + j * indepOff) = jacEntryFwd t N (indep.getD j 0) (dep.getD i 0)) ∧
  (∀ c, (∀ i j, i < dep.length → j < indep.length → c ≠ i * depOff + j * indepOff) → rd out' c = rd out c)

/-- number of blocks of the OpenMP loops -/
def nBlocks (W n : Nat) : Nat := (n + W - 1) / W

end Adept.Tape
