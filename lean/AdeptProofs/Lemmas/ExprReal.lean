import AdeptModel.Expr
import Mathlib.MeasureTheory.Integral.IntervalIntegral.FundThmCalculus
import Mathlib.Analysis.SpecialFunctions.Trigonometric.ArctanDeriv
import Mathlib.Analysis.SpecialFunctions.Trigonometric.InverseDeriv
import Mathlib.Analysis.SpecialFunctions.Pow.Deriv
import Mathlib.Analysis.SpecialFunctions.Arsinh
import Mathlib.Analysis.SpecialFunctions.Arcosh
import Mathlib.Analysis.SpecialFunctions.Artanh
import Mathlib.Analysis.Calculus.Deriv.Abs
/-!
The noncomputable `Num ℝ` instance of the proof layer: what each C library function *is* as a real function.

* `erf` is its definition `2/√π ∫₀ˣ e^{-t²} dt` (Mathlib has no error function; the derivative is proved here
  from the fundamental theorem of calculus); `erfc = 1 - erf`.
* `atan2 y x` is the argument of `x + y i` (`Complex.arg`).
* `cbrt x = sign x · |x|^{1/3}`; `exp2 x = 2^x`; `log2`, `log10` quotients of `Real.log`; `expm1`, `log1p` by definition.
* `round` rounds half away from zero, `rint`/`nearbyint` half to even, `trunc` towards zero (C semantics).
* `fastexp` is `exp`: Adept's vectorisable approximation is modelled by the function it approximates.
* decimal literals are their exact decimal value `num/den`; literals the translator recognised as a mathematical
  constant are that constant (`1/ln 10`, `1/ln 2`, `ln 2`, `2/√π`, …).

Also the derivatives Mathlib does not have: of `erf`, of the step functions away from their steps, of `cbrt` away
from 0, of `atan2` along a curve off the closed negative real axis.
-/
namespace Adept.Expr
open Adept Real

/-- `erf x = 2/√π ∫₀ˣ e^{-t²} dt` -/
noncomputable def erfR (x : ℝ) : ℝ := 2 / √π * ∫ t in (0:ℝ)..x, Real.exp (-(t * t))

theorem erfR_hasDerivAt (x : ℝ) : HasDerivAt erfR (2 / √π * Real.exp (-(x * x))) x := by
  have hc : Continuous (fun t : ℝ => Real.exp (-(t * t))) := by fun_prop
  have h := intervalIntegral.integral_hasDerivAt_right (hc.intervalIntegrable 0 x)
    (hc.stronglyMeasurableAtFilter _ _) hc.continuousAt
  exact h.const_mul (2 / √π)

noncomputable def cbrtR (x : ℝ) : ℝ := if 0 ≤ x then x ^ ((1:ℝ) / 3) else -((-x) ^ ((1:ℝ) / 3))
/-- C `round`: nearest integer, ties away from zero -/
noncomputable def roundR (x : ℝ) : ℝ := if 0 ≤ x then (⌊x + 1 / 2⌋ : ℝ) else (⌈x - 1 / 2⌉ : ℝ)
noncomputable def truncR (x : ℝ) : ℝ := if 0 ≤ x then (⌊x⌋ : ℝ) else (⌈x⌉ : ℝ)
/-- C `rint` / `nearbyint` in the default rounding mode: nearest integer, ties to even -/
noncomputable def rintR (x : ℝ) : ℝ :=
  if Int.fract x = 1 / 2 then (if Even ⌊x⌋ then (⌊x⌋ : ℝ) else (⌊x⌋ : ℝ) + 1) else (⌊x + 1 / 2⌋ : ℝ)
noncomputable def atan2R (y x : ℝ) : ℝ := Complex.arg (⟨x, y⟩ : ℂ)

noncomputable def realCfun : CFun → ℝ → ℝ
  | .log => Real.log
  | .log10 => fun x => Real.log x / Real.log 10
  | .sin => Real.sin | .cos => Real.cos | .tan => Real.tan
  | .asin => Real.arcsin | .acos => Real.arccos | .atan => Real.arctan
  | .sinh => Real.sinh | .cosh => Real.cosh
  | .abs => fun x => |x| | .fabs => fun x => |x|
  | .sqrt => Real.sqrt
  | .tanh => Real.tanh
  | .fastexp => Real.exp
  | .exp => Real.exp
  | .ceil => fun x => (⌈x⌉ : ℝ)
  | .floor => fun x => (⌊x⌋ : ℝ)
  | .log2 => fun x => Real.log x / Real.log 2
  | .expm1 => fun x => Real.exp x - 1
  | .exp2 => fun x => (2:ℝ) ^ x
  | .log1p => fun x => Real.log (1 + x)
  | .asinh => Real.arsinh | .acosh => Real.arcosh | .atanh => Real.artanh
  | .erf => erfR
  | .erfc => fun x => 1 - erfR x
  | .cbrt => cbrtR
  | .round => roundR | .trunc => truncR | .rint => rintR | .nearbyint => rintR
  | .pos => fun x => x
  | .neg => fun x => -x
  | .lnot => fun x => if x = 0 then 1 else 0

noncomputable def realKConst : KConst → ℝ
  | .invLn10 => 1 / Real.log 10
  | .invLn2 => 1 / Real.log 2
  | .ln2 => Real.log 2
  | .ln10 => Real.log 10
  | .twoInvSqrtPi => 2 / √π
  | .pi => π

noncomputable instance instNumReal : Num ℝ where
  lit _ n d := (n : ℝ) / (d : ℝ)
  kconst c _ := realKConst c
  ofInt i := (i : ℝ)
  cfun := realCfun
  pow := fun a b => a ^ b
  atan2 := atan2R
  fmax := max
  fmin := min
  lt a b := decide (a < b)
  le a b := decide (a ≤ b)

theorem truncR_of_nonneg {x : ℝ} (h : 0 ≤ x) : truncR x = (⌊x⌋ : ℝ) := if_pos h
theorem truncR_of_neg {x : ℝ} (h : x < 0) : truncR x = (⌈x⌉ : ℝ) := if_neg (not_le.mpr h)
theorem cbrtR_of_nonneg {x : ℝ} (h : 0 ≤ x) : cbrtR x = x ^ ((1:ℝ) / 3) := if_pos h
theorem cbrtR_of_neg {x : ℝ} (h : x < 0) : cbrtR x = -((-x) ^ ((1:ℝ) / 3)) := if_neg (not_le.mpr h)

@[simp] theorem lit_real (b : UInt64) (n d : Nat) : (Num.lit b n d : ℝ) = (n : ℝ) / (d : ℝ) := rfl
@[simp] theorem kconst_real (c : KConst) (b : UInt64) : (Num.kconst c b : ℝ) = realKConst c := rfl
@[simp] theorem ofInt_real (i : Int) : (Num.ofInt i : ℝ) = (i : ℝ) := rfl
@[simp] theorem cfun_real (c : CFun) : (Num.cfun c : ℝ → ℝ) = realCfun c := rfl
@[simp] theorem pow_real (a b : ℝ) : (Num.pow a b : ℝ) = a ^ b := rfl
@[simp] theorem atan2_real (a b : ℝ) : (Num.atan2 a b : ℝ) = atan2R a b := rfl
@[simp] theorem fmax_real (a b : ℝ) : (Num.fmax a b : ℝ) = max a b := rfl
@[simp] theorem fmin_real (a b : ℝ) : (Num.fmin a b : ℝ) = min a b := rfl
@[simp] theorem lt_real (a b : ℝ) : (Num.lt a b : Bool) = decide (a < b) := rfl
@[simp] theorem le_real (a b : ℝ) : (Num.le a b : Bool) = decide (a ≤ b) := rfl

/-- the literals `0.0` and `1.0` of the generated tables -/
theorem lit_zero (b : UInt64) : (Num.lit b 0 1 : ℝ) = 0 := by rw [lit_real, Nat.cast_zero, zero_div]
theorem lit_one (b : UInt64) : (Num.lit b 1 1 : ℝ) = 1 := by rw [lit_real, Nat.cast_one, div_one]

section calculus
open Filter Topology

/-! ### the step functions: locally constant around every point that is not a step -/

theorem Ioo_floor_mem_nhds {z : ℝ} (hz : ∀ n : ℤ, z ≠ n) : Set.Ioo (⌊z⌋ : ℝ) (⌊z⌋ + 1) ∈ 𝓝 z :=
  Ioo_mem_nhds (lt_of_le_of_ne (Int.floor_le z) (hz ⌊z⌋).symm) (Int.lt_floor_add_one z)

theorem floor_hasDerivAt {z : ℝ} (hz : ∀ n : ℤ, z ≠ n) : HasDerivAt (fun y => (⌊y⌋ : ℝ)) 0 z :=
  (hasDerivAt_const z (⌊z⌋ : ℝ)).congr_of_eventuallyEq <| by
    filter_upwards [Ioo_floor_mem_nhds hz] with w hw using Int.floor_eq_on_Ico' ⌊z⌋ w ⟨hw.1.le, hw.2⟩

theorem ceil_hasDerivAt {z : ℝ} (hz : ∀ n : ℤ, z ≠ n) : HasDerivAt (fun y => (⌈y⌉ : ℝ)) 0 z :=
  (hasDerivAt_const z ((⌊z⌋ + 1 : ℤ) : ℝ)).congr_of_eventuallyEq <| by
    filter_upwards [Ioo_floor_mem_nhds hz] with w hw
    refine Int.ceil_eq_on_Ioc' (⌊z⌋ + 1) w ?_
    rw [Int.cast_add, Int.cast_one, add_sub_cancel_right]
    exact ⟨hw.1, hw.2.le⟩

theorem eventually_ne_int {z : ℝ} (hz : ∀ n : ℤ, z ≠ n) : ∀ᶠ w : ℝ in 𝓝 z, ∀ n : ℤ, w ≠ n := by
  filter_upwards [Ioo_floor_mem_nhds hz] with w hw n e
  rw [e] at hw
  have h1 : ⌊z⌋ < n := Int.cast_lt.mp hw.1
  have h2 : n < ⌊z⌋ + 1 := by exact_mod_cast hw.2
  omega

theorem truncR_hasDerivAt {x : ℝ} (hx : ∀ n : ℤ, x ≠ n) : HasDerivAt truncR 0 x := by
  rcases lt_or_gt_of_ne (fun e => hx 0 (by rw [e, Int.cast_zero]) : x ≠ 0) with h | h
  · refine (ceil_hasDerivAt hx).congr_of_eventuallyEq ?_
    filter_upwards [Iio_mem_nhds h] with y hy using truncR_of_neg hy
  · refine (floor_hasDerivAt hx).congr_of_eventuallyEq ?_
    filter_upwards [Ioi_mem_nhds h] with y hy using truncR_of_nonneg (le_of_lt hy)

theorem halfstair_hasDerivAt {f : ℝ → ℝ} (hf : ∀ y : ℝ, (∀ n : ℤ, y + 1 / 2 ≠ n) → f y = (⌊y + 1 / 2⌋ : ℝ))
    {x : ℝ} (hx : ∀ n : ℤ, x + 1 / 2 ≠ n) : HasDerivAt f 0 x :=
  ((floor_hasDerivAt hx).comp_add_const x (1 / 2)).congr_of_eventuallyEq
    (((continuous_add_const (1 / 2 : ℝ)).continuousAt.eventually (eventually_ne_int hx)).mono hf)

theorem roundR_eq (y : ℝ) (hy : ∀ n : ℤ, y + 1 / 2 ≠ n) : roundR y = (⌊y + 1 / 2⌋ : ℝ) := by
  unfold roundR
  split_ifs
  · rfl
  · -- `⌈z - 1⌉ = ⌈z⌉ - 1 = ⌊z⌋` for the non-integer `z = y + 1/2`
    rw [show y - 1 / 2 = y + 1 / 2 - 1 by ring, Int.ceil_sub_one,
      (Int.ceil_eq_floor_add_one_iff_notMem _).mpr (fun ⟨n, e⟩ => hy n e.symm), add_sub_cancel_right]

theorem rintR_eq (y : ℝ) (hy : ∀ n : ℤ, y + 1 / 2 ≠ n) : rintR y = (⌊y + 1 / 2⌋ : ℝ) := by
  unfold rintR
  exact if_neg fun hf => hy (⌊y⌋ + 1) (by rw [Int.cast_add, Int.cast_one]; linarith [Int.self_sub_floor y])

theorem cbrt_algebra (u : ℝ) (hu : 0 < u) :
    (1:ℝ) / 3 * u ^ ((1:ℝ) / 3 - 1) = (1 / 3) / (u ^ ((1:ℝ) / 3) * u ^ ((1:ℝ) / 3)) := by
  have e1 : u ^ ((1:ℝ) / 3) * u ^ ((1:ℝ) / 3) = u ^ ((2:ℝ) / 3) := by
    rw [← Real.rpow_add hu]; norm_num
  have e2 : u ^ ((1:ℝ) / 3 - 1) = (u ^ ((2:ℝ) / 3))⁻¹ := by
    rw [← Real.rpow_neg hu.le]; norm_num
  rw [e1, e2]; ring

theorem cbrtR_hasDerivAt {x : ℝ} (hx : x ≠ 0) : HasDerivAt cbrtR (1 / 3 / (cbrtR x * cbrtR x)) x := by
  rcases lt_or_gt_of_ne hx with h | h
  · have hd : HasDerivAt (fun y : ℝ => -((-y) ^ ((1:ℝ) / 3))) _ x :=
      ((hasDerivAt_neg x).rpow_const (Or.inl (neg_pos.mpr h).ne')).neg
    have hev : cbrtR =ᶠ[𝓝 x] fun y => -((-y) ^ ((1:ℝ) / 3)) := by
      filter_upwards [Iio_mem_nhds h] with y hy using cbrtR_of_neg hy
    refine (hd.congr_of_eventuallyEq hev).congr_deriv ?_
    rw [cbrtR_of_neg h, neg_mul_neg,
      ← cbrt_algebra (-x) (neg_pos.mpr h)]
    ring
  · have hev : cbrtR =ᶠ[𝓝 x] fun y => y ^ ((1:ℝ) / 3) := by
      filter_upwards [Ioi_mem_nhds h] with y hy using cbrtR_of_nonneg (le_of_lt hy)
    refine ((Real.hasDerivAt_rpow_const (Or.inl h.ne')).congr_of_eventuallyEq hev).congr_deriv ?_
    rw [cbrtR_of_nonneg h.le, cbrt_algebra x h]

/-- `atan2 l r = Im log (r + l i)`, differentiated along a curve that stays off the closed negative real axis -/
theorem atan2R_hasDerivAt {l r : ℝ → ℝ} {l' r' t : ℝ} (hl : HasDerivAt l l' t) (hr : HasDerivAt r r' t)
    (hd : 0 < r t ∨ l t ≠ 0) :
    HasDerivAt (fun s => atan2R (l s) (r s))
      (r t * (1 / (l t * l t + r t * r t)) * l' + -l t * (1 / (l t * l t + r t * r t)) * r') t := by
  have hf : HasDerivAt (fun s => ((r s : ℝ) : ℂ) + ((l s : ℝ) : ℂ) * Complex.I)
      ((r' : ℂ) + (l' : ℂ) * Complex.I) t :=
    (hr.ofReal_comp).add ((hl.ofReal_comp).mul_const Complex.I)
  have hmem : ((r t : ℂ) + (l t : ℂ) * Complex.I) ∈ Complex.slitPlane := by
    rw [Complex.mem_slitPlane_iff]; simpa using hd
  have him := Complex.imCLM.hasFDerivAt.comp_hasDerivAt t (hf.clog_real hmem)
  have hfun : (fun s => atan2R (l s) (r s)) =
      (⇑Complex.imCLM ∘ fun s => Complex.log (((r s : ℝ) : ℂ) + ((l s : ℝ) : ℂ) * Complex.I)) := by
    funext s
    simp only [Function.comp, Complex.imCLM_apply, Complex.log_im, atan2R, Complex.mk_eq_add_mul_I]
  rw [hfun]
  refine him.congr_deriv ?_
  simp only [Complex.imCLM_apply, Complex.div_im, Complex.add_re, Complex.add_im, Complex.ofReal_re, Complex.ofReal_im,
    Complex.mul_re, Complex.mul_im, Complex.I_re, Complex.I_im, Complex.normSq_apply]
  ring

end calculus

end Adept.Expr
