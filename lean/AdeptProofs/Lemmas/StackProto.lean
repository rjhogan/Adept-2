import AdeptProofs.Lemmas.Tape
import AdeptModel.StackProto
/-!
Protocol state of `adept::Stack` (`AdeptModel/StackProto.lean`), for C10 and C11.  The first seed after `clear_gradients`
re-zeroes the working vector; from then on two stacks with the same tape are related by `Rel`, which seeding keeps and
which decides the result of a sweep.
-/
namespace Adept.StackProto
open Adept.Tape Adept.GradAlloc

def zeroStep (g : List Int) (i : Nat) : List Int := g.set i 0

theorem zeroStep_length (g : List Int) (i : Nat) : (zeroStep g i).length = g.length := by
  simp [zeroStep]

theorem zeroLoop_spec (g : List Int) (k : Nat) (hk : k ≤ g.length) :
    ((List.range k).foldl zeroStep g).length = g.length ∧
    ∀ j, j < k → rd ((List.range k).foldl zeroStep g) j = 0 := by
  induction k with
  | zero => exact ⟨rfl, fun j hj => absurd hj (Nat.not_lt_zero _)⟩
  | succ k ih =>
    obtain ⟨hl, hz⟩ := ih (by omega)
    rw [foldl_range_succ]
    refine ⟨by rw [zeroStep_length, hl], fun j hj => ?_⟩
    have e : ∀ (g : List Int) (i : Nat), zeroStep g i = g.set i 0 := fun _ _ => rfl
    rw [e]
    by_cases hjk : j = k
    · subst hjk
      exact rd_set_self _ _ _ (by omega)
    · rw [rd_set_ne _ _ _ _ hjk]
      exact hz j (by omega)

theorem zeroLoop_eq (g : List Int) (n : Nat) (hn : g.length = n) :
    (List.range n).foldl zeroStep g = List.replicate n 0 := by
  obtain ⟨hl, hz⟩ := zeroLoop_spec g n (by omega)
  rw [List.eq_replicate_iff]
  refine ⟨by rw [hl, hn], fun b hb => ?_⟩
  obtain ⟨j, hj, rfl⟩ := List.getElem_of_mem hb
  rw [← rd_eq_getElem _ j hj]
  exact hz j (by omega)

theorem initGradients_grad (s : St) : s.initGradients.grad = List.replicate s.ga.maxGrad 0 := by
  unfold St.initGradients
  show (List.range s.ga.maxGrad).foldl zeroStep
    (if s.grad.length ≠ s.ga.maxGrad then List.replicate s.ga.maxGrad 0 else s.grad) = _
  apply zeroLoop_eq
  split
  · simp
  · rename_i h
    exact not_not.mp h

theorem initGradients_gradInit (s : St) : s.initGradients.gradInit = true := rfl
theorem initGradients_tape (s : St) : s.initGradients.tape = s.tape := rfl
theorem initGradients_ga (s : St) : s.initGradients.ga = s.ga := rfl

theorem seed_of_not_init (s : St) (idx : Nat) (v : Int) (h : s.gradInit = false) :
    s.seed idx v = s.initGradients.seed idx v := by
  unfold St.seed
  simp [h, initGradients_gradInit]

theorem seed_of_init (s : St) (idx : Nat) (v : Int) (h : s.gradInit = true) :
    s.seed idx v =
      if idx + 1 > s.grad.length then (s, some .gradient_out_of_range)
      else ({ s with grad := s.grad.set idx v }, none) := by
  unfold St.seed
  simp [h]

/-- two stacks that a sweep cannot tell apart -/
structure Rel (s₁ s₂ : St) : Prop where
  tape : s₁.tape = s₂.tape
  init₁ : s₁.gradInit = true
  init₂ : s₂.gradInit = true
  grad : s₁.grad = s₂.grad
  mg : s₁.ga.maxGrad = s₂.ga.maxGrad

theorem rel_seed {s₁ s₂ : St} (r : Rel s₁ s₂) (idx : Nat) (v : Int) :
    Rel (s₁.seed idx v).1 (s₂.seed idx v).1 := by
  rw [seed_of_init s₁ idx v r.init₁, seed_of_init s₂ idx v r.init₂, r.grad]
  split
  · exact r
  · exact ⟨r.tape, r.init₁, r.init₂, rfl, r.mg⟩

theorem seedAll_cons (s : St) (p : Nat × Int) (l : List (Nat × Int)) :
    seedAll s (p :: l) = seedAll (s.seed p.1 p.2).1 l := rfl

theorem rel_seedAll {s₁ s₂ : St} (r : Rel s₁ s₂) (l : List (Nat × Int)) :
    Rel (seedAll s₁ l) (seedAll s₂ l) := by
  induction l generalizing s₁ s₂ with
  | nil => exact r
  | cons p l ih =>
    rw [seedAll_cons, seedAll_cons]
    exact ih (rel_seed r p.1 p.2)

theorem rel_init (s₁ s₂ : St) (ht : s₁.tape = s₂.tape) (hm : s₁.ga.maxGrad = s₂.ga.maxGrad) :
    Rel s₁.initGradients s₂.initGradients :=
  ⟨ht, rfl, rfl, by rw [initGradients_grad, initGradients_grad, hm], hm⟩

theorem rel_cleared (s₁ s₂ : St) (seeds : List (Nat × Int)) (ht : s₁.tape = s₂.tape)
    (hm : s₁.ga.maxGrad = s₂.ga.maxGrad) (hs : seeds ≠ []) :
    Rel (seedAll { s₁ with gradInit := false } seeds) (seedAll { s₂ with gradInit := false } seeds) := by
  cases seeds with
  | nil => exact absurd rfl hs
  | cons p l =>
    rw [seedAll_cons, seedAll_cons, seed_of_not_init { s₁ with gradInit := false } p.1 p.2 rfl,
      seed_of_not_init { s₂ with gradInit := false } p.1 p.2 rfl]
    exact rel_seedAll (rel_seed (rel_init _ _ ht hm) p.1 p.2) l

theorem Rel.forward {s₁ s₂ : St} (r : Rel s₁ s₂) :
    s₁.forward.toOption.map (·.grad) = s₂.forward.toOption.map (·.grad) := by
  unfold St.forward
  rw [if_pos r.init₁, if_pos r.init₂, r.mg, r.grad, r.tape]
  split <;> rfl

theorem Rel.reverse {s₁ s₂ : St} (r : Rel s₁ s₂) :
    s₁.reverse.toOption.map (·.grad) = s₂.reverse.toOption.map (·.grad) := by
  unfold St.reverse
  rw [if_pos r.init₁, if_pos r.init₂, r.mg, r.grad, r.tape]
  split <;> rfl

theorem pushRhs_pushLhs (s : St) (ops : List (Int × Nat)) (idx : Nat) (hp : s.pend = []) :
    ((s.pushRhs ops).pushLhs idx).tape = s.tape ++ [⟨idx, ops⟩] ∧ ((s.pushRhs ops).pushLhs idx).pend = [] := by
  show s.tape ++ [⟨idx, s.pend ++ ops⟩] = _ ∧ _
  rw [hp]
  exact ⟨rfl, rfl⟩

theorem new_recording_forgets (s : St) :
    let s' := newRec s
    s'.tape = [] ∧ s'.pend = [] ∧ s'.indep = [] ∧ s'.dep = [] ∧ s'.gradInit = false ∧
    s'.ga.maxGrad = s.ga.iGrad + 1 ∧ s'.vars = s.vars := by
  intro s'
  exact ⟨rfl, rfl, rfl, rfl, rfl, rfl, rfl⟩

theorem var?_setVar (s : St) (h : Nat) (x : Var) : (s.setVar h x).var? h = some x := by
  simp [St.var?, St.setVar]

theorem pause_noop (s : St) (h : Nat) (x : Var) (e : RNode) (hp : s.cfg.pausable = true)
    (hr : s.recording = false) (s' : St) (v : Int) (ha : s.assign h x e = some (s', v)) :
    e.eval s = some v ∧ s'.tape = s.tape ∧ s'.pend = s.pend ∧ s'.ga = s.ga ∧
    s'.var? h = some { x with val := v } := by
  unfold St.assign at ha
  cases hev : e.eval s with
  | none => simp [hev] at ha
  | some w =>
    simp [hev, St.isRecording, hp, hr] at ha
    obtain ⟨rfl, rfl⟩ := ha
    exact ⟨rfl, rfl, rfl, rfl, var?_setVar _ _ _⟩

theorem dependence_is_statement (lhs x : Nat) (m : Int) (g : Vec Int) :
    fwdStep (addDep lhs x m) g = g.set lhs (m * rd g x) := by
  unfold fwdStep addDep
  by_cases hm : m = 0
  · subst hm
    simp [rhsVal]
  · simp [rhsVal, hm]

theorem append_dependence (s : St) (lhs x : Nat) (m : Int) (hr : s.isRecording = true) :
    (∀ last, s.tape.getLast? = some last → last.lhs = lhs →
        s.appendDependence lhs x m = .ok { s with tape := s.tape.dropLast ++ [appendDep last x m] }) ∧
    ((∀ last, s.tape.getLast? = some last → last.lhs ≠ lhs) →
        s.appendDependence lhs x m = .error .wrong_gradient) := by
  unfold St.appendDependence
  constructor
  · intro last hl hlhs
    simp [hr, hl, hlhs]
  · intro hall
    cases hl : s.tape.getLast? with
    | none => simp [hr]
    | some last => simp [hr, hall last hl]

/-- value of the right-hand side of a term list: `Σ mⱼ·g[xⱼ]` -/
def termSum (ts : List (Nat × Int)) (g : Vec Int) : Int := ts.foldl (fun a t => a + t.2 * rd g t.1) 0

theorem termSum_eq_sum (ts : List (Nat × Int)) (g : Vec Int) :
    termSum ts g = (ts.map (fun t => t.2 * rd g t.1)).sum := by
  unfold termSum
  rw [foldl_add_eq_sum (fun t : Nat × Int => t.2 * rd g t.1), zero_add]

theorem rhsVal_depOps (ts : List (Nat × Int)) (g : Vec Int) : rhsVal (depOps ts) g = termSum ts g := by
  rw [rhsVal_eq_sum, termSum_eq_sum]
  unfold depOps
  induction ts with
  | nil => rfl
  | cons t tl ih =>
    by_cases hm : t.2 = 0
    · rw [List.filter_cons_of_neg (by simp [hm]), List.map_cons, List.sum_cons, hm, Int.zero_mul, Int.zero_add, ih]
    · rw [List.filter_cons_of_pos (by simp [hm]), List.map_cons, List.map_cons, List.map_cons, List.sum_cons,
        List.sum_cons, ih]

theorem depOps_cons (x : Nat) (m : Int) (ts : List (Nat × Int)) :
    depOps ((x, m) :: ts) = (if m ≠ 0 then [(m, x)] else []) ++ depOps ts := by
  unfold depOps
  by_cases hm : m = 0 <;> simp [hm]

end Adept.StackProto
