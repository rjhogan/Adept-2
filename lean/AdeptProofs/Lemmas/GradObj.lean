import AdeptProofs.Lemmas.GradObjBase
/-!
The invariant `OInv` that ties the objects of `AdeptModel/GradObj.lean` to the ghost list of live blocks of the allocator, and
its preservation by every primitive action (object layer of C08).  Core Lean only.

The invariant has an allocator part (`hist`, `perm`), a part about the objects that register for themselves (`OwnsOK`) and a part
about arrays and their storages (`ArrsOK`); an action on one kind of object leaves the other part as it is.
-/
namespace Adept.GradObj
open Adept.GradAlloc

/-- slots held by the objects that register for themselves (scalars, fixed arrays, vector / array elements) -/
def ownBlocks (owns : List (Nat × OwnObj)) : List Block := owns.flatMap (fun p => p.2.bs)
/-- slots held by the `Storage` objects -/
def heapBlocks (heap : List Stor) : List Block := heap.map (fun t => (t.gi, t.n))
/-- all live OWNERS -/
def blocks (s : OS) : List Block := ownBlocks s.owns ++ heapBlocks s.heap
/-- number of array objects whose `storage_` is `sid` -/
def refcount (arrs : List (Nat × ArrObj)) (sid : Nat) : Nat := arrs.countP (fun p => p.2.st == some sid)

structure OwnsOK (owns : List (Nat × OwnObj)) : Prop where
  keys : (owns.map (·.1)).Nodup
  scal : ∀ p ∈ owns, p.2.scalar = true → ∀ b ∈ p.2.bs, b.2 = 1

structure ArrsOK (heap : List Stor) (arrs : List (Nat × ArrObj)) (nextSid : Nat) : Prop where
  keys : (arrs.map (·.1)).Nodup
  sids : (heap.map (·.sid)).Nodup
  sidLt : ∀ t ∈ heap, t.sid < nextSid
  /-- `n_links_` is the number of arrays that point to the storage, and a storage with no link does not exist -/
  links : ∀ t ∈ heap, 0 < t.links ∧ t.links = refcount arrs t.sid
  /-- every `storage_` pointer is valid; the array addresses slots of that storage only and its gradient index is the
      storage's plus the data offset -/
  refs : ∀ p ∈ arrs, ∀ sid, p.2.st = some sid →
    ∃ t ∈ heap, t.sid = sid ∧ p.2.off + ext p.2.dims p.2.strides < t.n ∧ p.2.g = some (t.gi + p.2.off)

/-- The invariant of the object layer, relative to the ghost list `L` of live blocks of the allocator. -/
structure OInv (s : OS) (L : List Block) : Prop where
  /-- the allocator calls made so far are a LEGAL allocator history, and it leads to the present allocator state -/
  hist : runHist stackInit [] s.log.reverse = some (s.ga, L)
  /-- the live blocks of the allocator are exactly the blocks of the live owners -/
  perm : (blocks s).Perm L
  owns : OwnsOK s.owns
  arrs : ArrsOK s.heap s.arrs s.nextSid
  noub : s.ub = false
  pk : 0 < s.packet

/-- one allocator call; the model's five `call…` functions are its instances -/
def callOp (s : OS) (op : Op) : OS := { s with ga := (step s.ga op).1, log := op :: s.log }

theorem callReg1_fst (s : OS) : (callReg1 s).1 = callOp s .reg1 := rfl
theorem callRegN_fst (n : Nat) (s : OS) : (callRegN n s).1 = callOp s (.regN n) := rfl
theorem callUnreg1_eq (i : Nat) (s : OS) : callUnreg1 i s = callOp s (.unreg1 i) := rfl
theorem callUnregN_eq (i n : Nat) (s : OS) : callUnregN i n s = callOp s (.unregN i n) := rfl
theorem callNewRec_eq (s : OS) : callNewRec s = callOp s .newRec := rfl
theorem trace_eq (s : OS) : trace s = s.log.reverse := rfl

@[simp] theorem callRegN_nextSid (n : Nat) (s : OS) : (callRegN n s).1.nextSid = s.nextSid := rfl
@[simp] theorem callRegN_heap (n : Nat) (s : OS) : (callRegN n s).1.heap = s.heap := rfl
@[simp] theorem callRegN_owns (n : Nat) (s : OS) : (callRegN n s).1.owns = s.owns := rfl
@[simp] theorem callRegN_arrs (n : Nat) (s : OS) : (callRegN n s).1.arrs = s.arrs := rfl
@[simp] theorem callRegN_packet (n : Nat) (s : OS) : (callRegN n s).1.packet = s.packet := rfl
@[simp] theorem callRegN_ub (n : Nat) (s : OS) : (callRegN n s).1.ub = s.ub := rfl
@[simp] theorem callRegN_ga (n : Nat) (s : OS) : (callRegN n s).1.ga = (regN n s.ga).1 := rfl
@[simp] theorem callRegN_log (n : Nat) (s : OS) : (callRegN n s).1.log = Op.regN n :: s.log := rfl
@[simp] theorem callRegN_snd (n : Nat) (s : OS) : (callRegN n s).2 = (regN n s.ga).2 := rfl

theorem hist_call {s : OS} {L : List Block} (op : Op)
    (h : runHist stackInit [] s.log.reverse = some (s.ga, L)) (hl : Legal L op) :
    runHist stackInit [] (callOp s op).log.reverse = some ((callOp s op).ga, ghost s.ga L op) := by
  simp only [callOp, List.reverse_cons]
  exact runHist_snoc _ op h hl

theorem inv_of_OInv {s : OS} {L : List Block} (h : OInv s L) : Inv s.ga L := inv_reachable _ h.hist

theorem insertAt_perm (l : List Blk) (pos : Nat) (b : Blk) : (insertAt l pos b).Perm (b :: l) := by
  unfold insertAt
  have := @List.perm_middle _ b (l.take pos) (l.drop pos)
  rwa [List.take_append_drop] at this

theorem perm_eraseIdx {α : Type} {l : List α} {k : Nat} {b : α} (h : l[k]? = some b) :
    l.Perm (b :: l.eraseIdx k) := by
  rw [List.eraseIdx_eq_take_drop_succ]
  exact (List.Perm.of_eq (eq_take_cons_drop h)).trans List.perm_middle

theorem ownBlocks_cons (h : Nat) (o : OwnObj) (l : List (Nat × OwnObj)) :
    ownBlocks ((h, o) :: l) = o.bs ++ ownBlocks l := by
  simp [ownBlocks, List.flatMap_cons]

theorem perm_erase_of_cons {L X : List Block} {b : Block} (h : L.Perm (b :: X)) : (L.erase b).Perm X := by
  have := h.erase b
  simpa using this

theorem OwnsOK.others {owns : List (Nat × OwnObj)} (hO : OwnsOK owns) (h : Nat) : OwnsOK (others owns h) :=
  ⟨others_keys_nodup h hO.keys, fun p hp => hO.scal p (mem_others.1 hp).1⟩

theorem OwnsOK.put {owns : List (Nat × OwnObj)} (hO : OwnsOK owns) (h : Nat) {o' : OwnObj}
    (hscal : o'.scalar = true → ∀ b ∈ o'.bs, b.2 = 1) : OwnsOK ((h, o') :: GradObj.others owns h) :=
  ⟨cons_others_keys_nodup h o' hO.keys,
    List.forall_mem_cons.2 ⟨hscal, (hO.others h).scal⟩⟩

theorem blocks_split {s : OS} {L : List Block} (hI : OInv s L) {h : Nat} {o : OwnObj} (hm : (h, o) ∈ s.owns) :
    (o.bs ++ ownBlocks (others s.owns h) ++ heapBlocks s.heap).Perm L := by
  have := (perm_cons_filter_key (·.1) hI.owns.keys hm).flatMap_right (fun p => p.2.bs)
  rw [List.flatMap_cons] at this
  exact ((this.append_right _).symm).trans hI.perm

/-- The object `h` gets the entry `o'`, possibly after one allocator call: what has to be shown is that the new blocks of `h`
    with those of the others are the live blocks after the call. -/
theorem oinv_putOwn {s s1 : OS} {L L' : List Block} (hI : OInv s L)
    (hs1 : s1 = s ∧ L' = L ∨ ∃ op, Legal L op ∧ s1 = callOp s op ∧ L' = ghost s.ga L op) (h : Nat) (o' : OwnObj)
    (hperm : (o'.bs ++ ownBlocks (others s.owns h) ++ heapBlocks s.heap).Perm L')
    (hscal : o'.scalar = true → ∀ b ∈ o'.bs, b.2 = 1) :
    OInv (putOwn s1 h o') L' := by
  have hb : ∀ s1 : OS, s1.owns = s.owns → s1.heap = s.heap →
      blocks (putOwn s1 h o') = o'.bs ++ ownBlocks (others s.owns h) ++ heapBlocks s.heap := by
    intro s1 e1 e2
    simp only [blocks, putOwn, ownBlocks_cons, e1, e2, others]
  rcases hs1 with ⟨rfl, rfl⟩ | ⟨op, hl, rfl, rfl⟩
  · exact { hI with perm := hb _ rfl rfl ▸ hperm, owns := hI.owns.put h hscal }
  · exact { hI with hist := hist_call op hI.hist hl, perm := hb _ rfl rfl ▸ hperm, owns := hI.owns.put h hscal }

theorem pstep_ownNew {s : OS} {L : List Block} (hI : OInv s L) (h : Nat) (sc : Bool) (tag : Nat) :
    OInv (pstep s (.ownNew h sc tag)) L := by
  simp only [pstep]
  split
  · exact hI
  · rename_i hl
    refine { hI with perm := ?_, owns := ⟨?_, ?_⟩ }
    · exact (show blocks { s with owns := (h, { scalar := sc, bs := [], cap := 0, tag := tag }) :: s.owns } = blocks s by
        simp only [blocks, ownBlocks_cons, List.nil_append]) ▸ hI.perm
    · exact List.nodup_cons.2 ⟨lookup_none_not_mem hl, hI.owns.keys⟩
    · exact List.forall_mem_cons.2 ⟨fun _ b hb => absurd hb List.not_mem_nil, hI.owns.scal⟩

theorem perm_push {o : OwnObj} {X L : List Block} (pos : Nat) (b : Block) (hb : (o.bs ++ X).Perm L) :
    (insertAt o.bs pos b ++ X).Perm (b :: L) :=
  ((insertAt_perm o.bs pos b).append_right X).trans (hb.cons b)

theorem pstep_ownPush {s : OS} {L : List Block} (hI : OInv s L) (h n pos : Nat) :
    ∃ L', OInv (pstep s (.ownPush h n pos)) L' := by
  simp only [pstep]
  split
  · exact ⟨L, hI⟩
  · rename_i o hl
    have hm := lookup_some_mem hl
    have hb := blocks_split hI hm
    rw [List.append_assoc] at hb
    split
    · rename_i hs
      split
      · refine ⟨_, oinv_putOwn (o' := { o with bs := insertAt o.bs pos ((reg1 s.ga).2, 1) }) hI
          (Or.inr ⟨.reg1, trivial, callReg1_fst s, rfl⟩) h ?_ ?_⟩
        · rw [List.append_assoc]
          exact perm_push pos _ hb
        · intro _ b hbm
          rcases List.mem_cons.1 ((insertAt_perm o.bs pos _).mem_iff.1 hbm) with rfl | hbm
          · rfl
          · exact hI.owns.scal _ hm hs b hbm
      · exact ⟨L, hI⟩
    · rename_i hs
      split
      · rename_i hn
        refine ⟨_, oinv_putOwn (o' := { o with bs := insertAt o.bs pos ((regN n s.ga).2, n) }) hI
          (Or.inr ⟨.regN n, hn, callRegN_fst n s, rfl⟩) h ?_ (fun hsc => absurd hsc hs)⟩
        rw [List.append_assoc]
        exact perm_push pos _ hb
      · exact ⟨L, hI⟩

theorem pstep_ownDrop {s : OS} {L : List Block} (hI : OInv s L) (h k : Nat) :
    ∃ L', OInv (pstep s (.ownDrop h k)) L' := by
  simp only [pstep]
  split
  · exact ⟨L, hI⟩
  · rename_i o hl
    have hm := lookup_some_mem hl
    have hb := blocks_split hI hm
    split
    · exact ⟨L, hI⟩
    · rename_i b hk
      have hbo : b ∈ o.bs := List.mem_of_getElem? hk
      have hL : L.Perm (b :: (o.bs.eraseIdx k ++ ownBlocks (others s.owns h) ++ heapBlocks s.heap)) :=
        hb.symm.trans (((perm_eraseIdx hk).append_right _).append_right _)
      have hbL : b ∈ L := hL.mem_iff.2 List.mem_cons_self
      have hscal : o.scalar = true → ∀ x ∈ o.bs.eraseIdx k, x.2 = 1 :=
        fun hs x hx => hI.owns.scal _ hm hs x ((List.eraseIdx_sublist _ _).subset hx)
      by_cases hs : o.scalar = true
      · have hb1 : b = (b.1, 1) := Prod.ext rfl (hI.owns.scal _ hm hs b hbo)
        rw [if_pos hs]
        exact ⟨_, oinv_putOwn (o' := { o with bs := o.bs.eraseIdx k }) hI
          (Or.inr ⟨.unreg1 b.1, hb1 ▸ hbL, callUnreg1_eq b.1 s, rfl⟩) h (perm_erase_of_cons (hb1 ▸ hL)).symm hscal⟩
      · rw [if_neg hs]
        exact ⟨_, oinv_putOwn (o' := { o with bs := o.bs.eraseIdx k }) hI
          (Or.inr ⟨.unregN b.1 b.2, hbL, callUnregN_eq b.1 b.2 s, rfl⟩) h (perm_erase_of_cons hL).symm hscal⟩

theorem pstep_ownSetCap {s : OS} {L : List Block} (hI : OInv s L) (h c : Nat) :
    OInv (pstep s (.ownSetCap h c)) L := by
  simp only [pstep]
  split
  · exact hI
  · rename_i o hl
    have hm := lookup_some_mem hl
    have hb := blocks_split hI hm
    exact oinv_putOwn (o' := { o with cap := c }) hI (Or.inl ⟨rfl, rfl⟩) h hb (hI.owns.scal _ hm)

theorem pstep_ownDel {s : OS} {L : List Block} (hI : OInv s L) (h : Nat) :
    OInv (pstep s (.ownDel h)) L := by
  simp only [pstep]
  split
  · exact hI
  · rename_i o hl
    split
    · rename_i he
      have hb := blocks_split hI (lookup_some_mem hl)
      rw [List.isEmpty_iff.1 he] at hb
      exact { hI with perm := hb, owns := hI.owns.others h }
    · exact hI

theorem refcount_cons (h : Nat) (a : ArrObj) (l : List (Nat × ArrObj)) (sid : Nat) :
    refcount ((h, a) :: l) sid = refcount l sid + if a.st = some sid then 1 else 0 := by
  simp only [refcount, List.countP_cons]
  by_cases hc : a.st = some sid <;> simp [hc]

theorem refcount_split {arrs : List (Nat × ArrObj)} {h : Nat} {a : ArrObj}
    (hn : (arrs.map (·.1)).Nodup) (hm : (h, a) ∈ arrs) (sid : Nat) :
    refcount arrs sid = refcount (others arrs h) sid + if a.st = some sid then 1 else 0 := by
  have := (perm_cons_filter_key (·.1) hn hm).countP_eq (fun p => p.2.st == some sid)
  rw [show refcount arrs sid = List.countP (fun p => p.2.st == some sid) arrs from rfl, this]
  exact refcount_cons h a _ sid

theorem refcount_put {arrs : List (Nat × ArrObj)} {h : Nat} {a : ArrObj}
    (hn : (arrs.map (·.1)).Nodup) (hm : (h, a) ∈ arrs) (a' : ArrObj) (sid : Nat) :
    refcount ((h, a') :: others arrs h) sid + (if a.st = some sid then 1 else 0) =
      refcount arrs sid + if a'.st = some sid then 1 else 0 := by
  rw [refcount_cons, refcount_split hn hm sid]
  exact Nat.add_right_comm _ _ _

theorem refcount_zero_iff {arrs : List (Nat × ArrObj)} {sid : Nat} :
    refcount arrs sid = 0 ↔ ∀ p ∈ arrs, p.2.st ≠ some sid := by
  simp [refcount, List.countP_eq_zero]

theorem ite_st_none {a : ArrObj} (h : a.st = none) (sid : Nat) : (if a.st = some sid then 1 else 0) = 0 :=
  if_neg (h ▸ fun e => nomatch e)

theorem ite_st_some {a : ArrObj} {sid : Nat} (h : a.st = some sid) (sid' : Nat) :
    (if a.st = some sid' then 1 else 0) = if sid = sid' then 1 else 0 := by
  simp only [h, Option.some.injEq]

theorem findStor_of_mem {s : OS} {t : Stor} (hn : (s.heap.map (·.sid)).Nodup) (ht : t ∈ s.heap) :
    findStor s t.sid = some t := by
  unfold findStor
  cases hf : s.heap.find? (fun u => u.sid == t.sid) with
  | none =>
    have := List.find?_eq_none.1 hf t ht
    simp at this
  | some u =>
    have hu := List.mem_of_find?_eq_some hf
    have he : u.sid = t.sid := by simpa using List.find?_some hf
    rw [eq_of_key_eq Stor.sid hn hu ht he]

theorem heapBlocks_map_links (heap : List Stor) (f : Stor → Stor) (hf : ∀ u, (f u).gi = u.gi ∧ (f u).n = u.n) :
    heapBlocks (heap.map f) = heapBlocks heap := by
  simp only [heapBlocks, List.map_map]
  apply List.map_congr_left
  intro u _
  simp [(hf u).1, (hf u).2]

theorem ArrsOK.new {heap : List Stor} {arrs : List (Nat × ArrObj)} {next : Nat} (hA : ArrsOK heap arrs next)
    {h : Nat} (hl : arrs.lookup h = none) {a : ArrObj} (ha : a.st = none) : ArrsOK heap ((h, a) :: arrs) next :=
  { hA with
    keys := List.nodup_cons.2 ⟨lookup_none_not_mem hl, hA.keys⟩
    links := fun t ht => by rw [refcount_cons, ite_st_none ha]; exact hA.links t ht
    refs := List.forall_mem_cons.2 ⟨fun sid hs => (nomatch ha ▸ hs), hA.refs⟩ }

theorem ArrsOK.del {heap : List Stor} {arrs : List (Nat × ArrObj)} {next : Nat} (hA : ArrsOK heap arrs next)
    {h : Nat} {a : ArrObj} (hm : (h, a) ∈ arrs) (ha : a.st = none) : ArrsOK heap (others arrs h) next :=
  { hA with
    keys := others_keys_nodup h hA.keys
    links := fun t ht => by
      have := refcount_split hA.keys hm t.sid
      rw [ite_st_none ha, Nat.add_zero] at this
      exact this ▸ hA.links t ht
    refs := fun p hp => hA.refs p (mem_others.1 hp).1 }

theorem ArrsOK.put {heap : List Stor} {arrs : List (Nat × ArrObj)} {next : Nat} (hA : ArrsOK heap arrs next)
    (f : Stor → Stor) (hf : ∀ u, (f u).sid = u.sid ∧ (f u).gi = u.gi ∧ (f u).n = u.n) (h : Nat) (a' : ArrObj)
    (hlinks : ∀ u ∈ heap, 0 < (f u).links ∧ (f u).links = refcount ((h, a') :: others arrs h) u.sid)
    (hrefs : ∀ sid, a'.st = some sid →
      ∃ t ∈ heap, t.sid = sid ∧ a'.off + ext a'.dims a'.strides < t.n ∧ a'.g = some (t.gi + a'.off)) :
    ArrsOK (heap.map f) ((h, a') :: others arrs h) next where
  keys := cons_others_keys_nodup h a' hA.keys
  sids := by
    have : List.map ((fun x : Stor => x.sid) ∘ f) heap = heap.map (·.sid) :=
      List.map_congr_left fun u _ => (hf u).1
    rw [List.map_map, this]
    exact hA.sids
  sidLt t ht := by
    obtain ⟨u, hu, rfl⟩ := List.mem_map.1 ht
    exact (hf u).1 ▸ hA.sidLt u hu
  links t ht := by
    obtain ⟨u, hu, rfl⟩ := List.mem_map.1 ht
    exact (hf u).1 ▸ hlinks u hu
  refs p hp sid hst := by
    have key : ∀ (a : ArrObj),
        (∃ t ∈ heap, t.sid = sid ∧ a.off + ext a.dims a.strides < t.n ∧ a.g = some (t.gi + a.off)) →
        ∃ t ∈ heap.map f, t.sid = sid ∧ a.off + ext a.dims a.strides < t.n ∧ a.g = some (t.gi + a.off) := by
      rintro a ⟨t, ht, h1, h2, h3⟩
      exact ⟨f t, List.mem_map.2 ⟨t, ht, rfl⟩, (hf t).1 ▸ h1, (hf t).2.2 ▸ h2, (hf t).2.1 ▸ h3⟩
    rcases List.mem_cons.1 hp with rfl | hp
    · exact key _ (hrefs sid hst)
    · exact key _ (hA.refs p (mem_others.1 hp).1 sid hst)

section Links
variable {heap : List Stor} {arrs : List (Nat × ArrObj)} {next : Nat} (hA : ArrsOK heap arrs next)
  {h : Nat} {a : ArrObj} (hm : (h, a) ∈ arrs) {t : Stor} (ht : t ∈ heap) (a' : ArrObj)
include hA hm

theorem ArrsOK.count_put {u : Stor} (hu : u ∈ heap) :
    refcount ((h, a') :: others arrs h) u.sid + (if a.st = some u.sid then 1 else 0) =
      u.links + if a'.st = some u.sid then 1 else 0 := by
  rw [refcount_put hA.keys hm, ← (hA.links u hu).2]

theorem ArrsOK.idle (ha : a.st = none) (ha' : a'.st = none) : ArrsOK heap ((h, a') :: others arrs h) next :=
  { hA with
    keys := cons_others_keys_nodup h a' hA.keys
    links := fun u hu => by
      have := hA.count_put hm a' hu
      rw [ite_st_none ha, ite_st_none ha'] at this
      exact ⟨(hA.links u hu).1, this.symm⟩
    refs := List.forall_mem_cons.2 ⟨fun sid hs => (nomatch ha' ▸ hs), fun p hp => hA.refs p (mem_others.1 hp).1⟩ }

include ht

/-- `add_link`: an array without storage comes to point into the storage `t` -/
theorem ArrsOK.link (ha : a.st = none) (hst : a'.st = some t.sid)
    (hr : a'.off + ext a'.dims a'.strides < t.n) (hg : a'.g = some (t.gi + a'.off)) :
    ArrsOK (heap.map fun u => if u.sid == t.sid then { u with links := u.links + 1 } else u)
      ((h, a') :: others arrs h) next := by
  refine hA.put _ (by intro u; split <;> exact ⟨rfl, rfl, rfl⟩) h a' (fun u hu => ?_)
    (fun sid hs => by cases hst.symm.trans hs; exact ⟨t, ht, rfl, hr, hg⟩)
  have := hA.count_put hm a' hu
  rw [ite_st_none ha, ite_st_some hst, Nat.add_zero] at this
  by_cases hus : u.sid = t.sid
  · rw [if_pos (beq_iff_eq.2 hus)]
    rw [if_pos hus.symm] at this
    exact ⟨Nat.succ_pos _, this.symm⟩
  · rw [if_neg fun e => hus (beq_iff_eq.1 e)]
    rw [if_neg fun e => hus e.symm] at this
    exact ⟨(hA.links u hu).1, this.symm⟩

/-- `remove_link` that leaves other links: the array lets go of the storage `t` -/
theorem ArrsOK.unlink (hst : a.st = some t.sid) (h1 : 1 < t.links) (ha' : a'.st = none) :
    ArrsOK (heap.map fun u => if u.sid == t.sid then { u with links := u.links - 1 } else u)
      ((h, a') :: others arrs h) next := by
  refine hA.put _ (by intro u; split <;> exact ⟨rfl, rfl, rfl⟩) h a' (fun u hu => ?_)
    (fun sid hs => (nomatch ha' ▸ hs))
  have := hA.count_put hm a' hu
  rw [ite_st_none ha', ite_st_some hst, Nat.add_zero] at this
  by_cases hus : u.sid = t.sid
  · cases eq_of_key_eq Stor.sid hA.sids hu ht hus
    rw [if_pos (beq_iff_eq.2 rfl)]
    rw [if_pos rfl] at this
    show 0 < t.links - 1 ∧ t.links - 1 = _
    omega
  · rw [if_neg fun e => hus (beq_iff_eq.1 e)]
    rw [if_neg fun e => hus e.symm] at this
    exact ⟨(hA.links u hu).1, this.symm⟩

/-- `remove_link` of the last link: the storage `t` goes, and nothing else pointed to it -/
theorem ArrsOK.dropStor (hst : a.st = some t.sid) (h1 : t.links = 1) (ha' : a'.st = none) :
    ArrsOK (heap.filter fun u => u.sid != t.sid) ((h, a') :: others arrs h) next := by
  have hcnt := fun u hu => hA.count_put hm a' (u := u) hu
  simp only [ite_st_none ha', ite_st_some hst, Nat.add_zero] at hcnt
  have hzero : ∀ p ∈ others arrs h, p.2.st ≠ some t.sid := refcount_zero_iff.1 <| by
    have := hcnt t ht
    rw [if_pos rfl, refcount_cons, ite_st_none ha'] at this
    omega
  exact {
    keys := cons_others_keys_nodup h a' hA.keys
    sids := List.Pairwise.sublist (List.Sublist.map _ List.filter_sublist) hA.sids
    sidLt := fun u hu => hA.sidLt u (List.mem_filter.1 hu).1
    links := fun u hu => by
      have hu' := List.mem_filter.1 hu
      have := hcnt u hu'.1
      rw [if_neg fun e => by simpa [e] using hu'.2] at this
      exact ⟨(hA.links u hu'.1).1, this.symm⟩
    refs := List.forall_mem_cons.2 ⟨fun sid hs => (nomatch ha' ▸ hs), fun p hp sid hs => by
      obtain ⟨u, hu, h1', h2', h3'⟩ := hA.refs p (mem_others.1 hp).1 sid hs
      refine ⟨u, List.mem_filter.2 ⟨hu, ?_⟩, h1', h2', h3'⟩
      have : sid ≠ t.sid := fun e => hzero p hp (e ▸ hs)
      simp [h1', this]⟩ }

omit ht

/-- `new Storage`: an array without storage gets a storage of its own, with the next identity -/
theorem ArrsOK.addStor (ha : a.st = none) (t : Stor) (hsid : t.sid = next) (hl : t.links = 1)
    (hst : a'.st = some next) (hr : a'.off + ext a'.dims a'.strides < t.n) (hg : a'.g = some (t.gi + a'.off)) :
    ArrsOK (t :: heap) ((h, a') :: others arrs h) (next + 1) := by
  have hnoref : ∀ p ∈ arrs, p.2.st ≠ some next := fun p hp e => by
    obtain ⟨u, hu, h1, _, _⟩ := hA.refs p hp _ e
    exact Nat.lt_irrefl _ (h1 ▸ hA.sidLt u hu)
  have hput := fun sid => refcount_put hA.keys hm a' sid
  simp only [ite_st_none ha, Nat.add_zero, ite_st_some hst] at hput
  exact {
    keys := cons_others_keys_nodup h a' hA.keys
    sids := List.nodup_cons.2 ⟨fun hmem => by
      obtain ⟨u, hu, he⟩ := List.mem_map.1 hmem
      exact Nat.lt_irrefl _ ((he.trans hsid) ▸ hA.sidLt u hu), hA.sids⟩
    sidLt := List.forall_mem_cons.2 ⟨hsid ▸ Nat.lt_succ_self _, fun u hu => Nat.lt_succ_of_lt (hA.sidLt u hu)⟩
    links := by
      refine List.forall_mem_cons.2 ⟨?_, fun u hu => ?_⟩
      · have := hput t.sid
        rw [if_pos hsid.symm, hsid, refcount_zero_iff.2 hnoref] at this
        exact hl ▸ ⟨Nat.one_pos, hsid ▸ this.symm⟩
      · have := hput u.sid
        rw [if_neg (Nat.ne_of_gt (hA.sidLt u hu)), Nat.add_zero] at this
        exact this ▸ hA.links u hu
    refs := List.forall_mem_cons.2 ⟨fun sid hs => by
        cases hst.symm.trans hs
        exact ⟨t, List.mem_cons_self, hsid, hr, hg⟩,
      fun p hp sid hs => by
        obtain ⟨u, hu, h1, h2, h3⟩ := hA.refs p (mem_others.1 hp).1 sid hs
        exact ⟨u, List.mem_cons_of_mem _ hu, h1, h2, h3⟩⟩ }

end Links

theorem oinv_relink {s : OS} {L : List Block} (hI : OInv s L) (f : Stor → Stor)
    (hf : ∀ u, (f u).gi = u.gi ∧ (f u).n = u.n) (h : Nat) (a' : ArrObj)
    (hA' : ArrsOK (s.heap.map f) ((h, a') :: others s.arrs h) s.nextSid) :
    OInv (putArr { s with heap := s.heap.map f } h a') L :=
  { hI with
    perm := by
      show (ownBlocks s.owns ++ heapBlocks (s.heap.map f)).Perm L
      rw [heapBlocks_map_links _ f hf]
      exact hI.perm
    arrs := hA' }

theorem pstep_arrNew {s : OS} {L : List Block} (hI : OInv s L) (h kind : Nat) :
    OInv (pstep s (.arrNew h kind)) L := by
  simp only [pstep]
  split
  · exact hI
  · rename_i hl
    exact { hI with arrs := hI.arrs.new hl rfl }

theorem pstep_arrDel {s : OS} {L : List Block} (hI : OInv s L) (h : Nat) :
    OInv (pstep s (.arrDel h)) L := by
  simp only [pstep]
  split
  · exact hI
  · rename_i a hl
    split
    · exact hI
    · rename_i hst
      exact { hI with arrs := hI.arrs.del (lookup_some_mem hl) (by simpa using hst) }

theorem pstep_arrRelease {s : OS} {L : List Block} (hI : OInv s L) (h : Nat) :
    ∃ L', OInv (pstep s (.arrRelease h)) L' := by
  simp only [pstep]
  split
  · exact ⟨L, hI⟩
  · rename_i a hl
    have hm := lookup_some_mem hl
    have hA := hI.arrs
    cases hst : a.st with
    | none => exact ⟨L, { hI with arrs := hA.idle hm _ hst rfl }⟩
    | some sid =>
      obtain ⟨t, ht, rfl, _, _⟩ := hA.refs _ hm sid hst
      have hlk : 0 < t.links := (hA.links t ht).1
      simp only [removeLink, findStor_of_mem hA.sids ht]
      rw [if_neg (Nat.ne_of_gt hlk)]
      by_cases h1 : t.links = 1
      · -- the last link goes: `~Storage` gives the block back
        rw [if_pos h1]
        have hbL : (t.gi, t.n) ∈ L := hI.perm.mem_iff.1
          (List.mem_append.2 (Or.inr (List.mem_map.2 ⟨t, ht, rfl⟩)))
        have h2 : (heapBlocks s.heap).Perm ((t.gi, t.n) :: heapBlocks (s.heap.filter (fun u => u.sid != t.sid))) :=
          (perm_cons_filter_key Stor.sid hA.sids ht).map (fun u : Stor => (u.gi, u.n))
        exact ⟨ghost s.ga L (.unregN t.gi t.n), {
          hist := hist_call (.unregN t.gi t.n) hI.hist hbL
          perm := (perm_erase_of_cons
            (hI.perm.symm.trans (((List.Perm.refl _).append h2).trans List.perm_middle))).symm
          owns := hI.owns
          arrs := hA.dropStor hm ht _ hst h1 rfl
          noub := hI.noub
          pk := hI.pk }⟩
      · rw [if_neg h1]
        exact ⟨L, oinv_relink hI _ (by intro u; split <;> exact ⟨rfl, rfl⟩) h _
          (hA.unlink hm ht _ hst (by omega) rfl)⟩

theorem pstep_arrAlloc {s : OS} {L : List Block} (hI : OInv s L) (h : Nat) (dims : List Nat) :
    ∃ L', OInv (pstep s (.arrAlloc h dims)) L' := by
  simp only [pstep]
  split
  · exact ⟨L, hI⟩
  · rename_i a hl
    split
    · exact ⟨L, hI⟩
    · rename_i hst
      split
      · rename_i hc
        obtain ⟨hne, _, hall⟩ := hc
        have hpos : ∀ d ∈ dims, 0 < d := fun d hd => by simpa using List.all_eq_true.1 hall d hd
        have hlay := layout_ok hI.pk a.kind dims hne hpos
        refine ⟨ghost s.ga L (.regN (layout a.kind s.packet dims).2.2), ?_⟩
        simp only [callRegN_nextSid, callRegN_heap, callRegN_owns, callRegN_arrs, callRegN_packet, callRegN_ub, callRegN_ga,
          callRegN_log, callRegN_snd, putArr]
        exact {
          hist := hist_call (.regN (layout a.kind s.packet dims).2.2) hI.hist
            (show 0 < (layout a.kind s.packet dims).2.2 by omega)
          perm := List.perm_middle.trans (hI.perm.cons _)
          owns := hI.owns
          arrs := hI.arrs.addStor (lookup_some_mem hl) _ (by simpa using hst) _ rfl rfl rfl
            (show 0 + ext (layout a.kind s.packet dims).1 (layout a.kind s.packet dims).2.1 <
              (layout a.kind s.packet dims).2.2 by omega) rfl
          noub := hI.noub
          pk := hI.pk }
      · exact ⟨L, hI⟩

theorem pstep_arrShare {s : OS} {L : List Block} (hI : OInv s L) (h src : Nat) (spec : Option (List Ix)) :
    OInv (pstep s (.arrShare h src spec)) L := by
  simp only [pstep]
  split
  · rename_i a b hl hlb
    have hma := lookup_some_mem hl
    have hmb := lookup_some_mem hlb
    have hA := hI.arrs
    split
    · exact hI
    · rename_i hst
      have hnone : a.st = none := by simpa using hst
      split
      · exact hI
      · rename_i sid hbst
        obtain ⟨t, ht, htsid, hbnd, hg⟩ := hA.refs _ hmb sid hbst
        replace hbnd : b.off + ext b.dims b.strides < t.n := hbnd
        replace hg : b.g = some (t.gi + b.off) := hg
        have hf : findStor s sid = some t := htsid ▸ findStor_of_mem hA.sids ht
        split
        · rename_i o ds ss t' hview hf'
          cases hf.symm.trans hf'
          have hvb : o + ext ds ss ≤ ext b.dims b.strides ∧ (spec = none → o = 0) := by
            cases spec with
            | none =>
              simp only [Option.some.injEq, Prod.mk.injEq] at hview
              obtain ⟨rfl, rfl, rfl⟩ := hview
              exact ⟨by omega, fun _ => rfl⟩
            | some xs =>
              exact ⟨sliceView_bound xs _ _ hview, fun e => by simp at e⟩
          subst htsid
          refine oinv_relink hI _ (by intro u; split <;> exact ⟨rfl, rfl⟩) h _
            (hA.link hma ht _ hnone rfl (show b.off + o + ext ds ss < t.n by omega) ?_)
          cases spec with
          | none =>
            cases hvb.2 rfl
            exact hg
          | some xs => rfl
        · rename_i hf'
          exact absurd (hf.symm.trans hf') (by simp)
        · exact hI
  · exact hI

theorem others_others {β : Type} (l : List (Nat × β)) (h1 h2 : Nat) :
    others (others l h1) h2 = l.filter (fun p => p.1 != h1 && p.1 != h2) := by
  simp only [others, List.filter_filter]
  apply List.filter_congr
  intro p _
  exact Bool.and_comm _ _

theorem pstep_arrSwap {s : OS} {L : List Block} (hI : OInv s L) (h1 h2 : Nat) :
    OInv (pstep s (.arrSwap h1 h2)) L := by
  simp only [pstep]
  split
  · rename_i a1 a2 hl1 hl2
    have hm1 := lookup_some_mem hl1
    have hm2 := lookup_some_mem hl2
    have hA := hI.arrs
    split
    · exact hI
    · rename_i hne
      have hm2' : (h2, a2) ∈ others s.arrs h1 := mem_others.2 ⟨hm2, fun e => hne e.symm⟩
      have hn1 := others_keys_nodup h1 hA.keys
      rw [← others_others]
      have hcount : ∀ sid, refcount s.arrs sid
          = refcount ((h1, a2) :: (h2, a1) :: others (others s.arrs h1) h2) sid := by
        intro sid
        rw [refcount_split hA.keys hm1 sid, refcount_split hn1 hm2' sid, refcount_cons, refcount_cons]
        omega
      exact { hI with
        arrs := { hA with
          keys := by
            simp only [List.map_cons, List.nodup_cons, List.mem_cons, not_or]
            refine ⟨⟨hne, ?_⟩, not_mem_others_keys _ h2, others_keys_nodup h2 hn1⟩
            intro hmem
            obtain ⟨p, hp, he⟩ := List.mem_map.1 hmem
            exact (mem_others.1 (mem_others.1 hp).1).2 he
          links := fun t ht => hcount t.sid ▸ hA.links t ht
          refs := List.forall_mem_cons.2 ⟨hA.refs (h2, a2) hm2, List.forall_mem_cons.2 ⟨hA.refs (h1, a1) hm1,
            fun p hp => hA.refs p (mem_others.1 (mem_others.1 hp).1).1⟩⟩ } }
  · exact hI

theorem pstep_newRec {s : OS} {L : List Block} (hI : OInv s L) : OInv (pstep s .newRec) L := by
  show OInv (callNewRec s) L
  rw [callNewRec_eq]
  exact { hI with hist := hist_call .newRec hI.hist trivial }

theorem pstep_inv {s : OS} {L : List Block} (hI : OInv s L) (p : Prim) : ∃ L', OInv (pstep s p) L' := by
  cases p with
  | ownNew h sc tag => exact ⟨L, pstep_ownNew hI h sc tag⟩
  | ownPush h n pos => exact pstep_ownPush hI h n pos
  | ownDrop h k => exact pstep_ownDrop hI h k
  | ownSetCap h c => exact ⟨L, pstep_ownSetCap hI h c⟩
  | ownDel h => exact ⟨L, pstep_ownDel hI h⟩
  | arrNew h kind => exact ⟨L, pstep_arrNew hI h kind⟩
  | arrRelease h => exact pstep_arrRelease hI h
  | arrAlloc h dims => exact pstep_arrAlloc hI h dims
  | arrShare h src spec => exact ⟨L, pstep_arrShare hI h src spec⟩
  | arrSwap h1 h2 => exact ⟨L, pstep_arrSwap hI h1 h2⟩
  | arrDel h => exact ⟨L, pstep_arrDel hI h⟩
  | newRec => exact ⟨L, pstep_newRec hI⟩

theorem prun_inv : ∀ (ps : List Prim) {s : OS} {L : List Block}, OInv s L → ∃ L', OInv (prun s ps) L'
  | [], _, L, hI => ⟨L, hI⟩
  | p :: ps, _, _, hI => by
    obtain ⟨L1, h1⟩ := pstep_inv hI p
    exact prun_inv ps h1

theorem ostep_inv {s : OS} {L : List Block} (hI : OInv s L) (op : OOp) : ∃ L', OInv (ostep s op) L' := by
  unfold ostep
  split
  · exact prun_inv _ hI
  · exact ⟨L, hI⟩

theorem orun_inv : ∀ (ops : List OOp) {s : OS} {L : List Block}, OInv s L → ∃ L', OInv (orun s ops) L'
  | [], _, L, hI => ⟨L, hI⟩
  | op :: ops, _, _, hI => by
    obtain ⟨L1, h1⟩ := ostep_inv hI op
    exact orun_inv ops h1

/-- the state before any object exists, for a build with packet size `P` -/
def initP (P : Nat) : OS := { init with packet := P }

theorem oinv_init {P : Nat} (hP : 0 < P) : OInv (initP P) [] :=
  { hist := rfl
    perm := List.Perm.refl _
    owns := ⟨List.nodup_nil, fun _ hp => (nomatch hp)⟩
    arrs := ⟨List.nodup_nil, List.nodup_nil, fun _ ht => (nomatch ht), fun _ ht => (nomatch ht),
      fun _ hp => (nomatch hp)⟩
    noub := rfl
    pk := hP }

theorem pairwise_mem {α : Type} {R : α → α → Prop} (hsym : ∀ {x y}, R x y → R y x) :
    ∀ {l : List α}, l.Pairwise R → ∀ {a b : α}, a ∈ l → b ∈ l → a ≠ b → R a b
  | [], _, _, _, ha, _, _ => by simp at ha
  | x :: l, hp, a, b, ha, hb, hne => by
    rw [List.pairwise_cons] at hp
    rcases List.mem_cons.1 ha with h1 | ha
    · rcases List.mem_cons.1 hb with h2 | hb
      · exact absurd (h1.trans h2.symm) hne
      · rw [h1]; exact hp.1 b hb
    · rcases List.mem_cons.1 hb with h2 | hb
      · rw [h2]; exact hsym (hp.1 a ha)
      · exact pairwise_mem hsym hp.2 ha hb hne

theorem pstep_arrNew_frame (s : OS) (h kind : Nat) :
    (pstep s (.arrNew h kind)).ga = s.ga ∧ (pstep s (.arrNew h kind)).log = s.log ∧
    (pstep s (.arrNew h kind)).owns = s.owns ∧ (pstep s (.arrNew h kind)).heap = s.heap := by
  simp only [pstep]; split <;> simp

theorem pstep_arrDel_frame (s : OS) (h : Nat) :
    (pstep s (.arrDel h)).ga = s.ga ∧ (pstep s (.arrDel h)).log = s.log ∧
    (pstep s (.arrDel h)).owns = s.owns ∧ (pstep s (.arrDel h)).heap = s.heap := by
  simp only [pstep]
  split
  · simp
  · split <;> simp

end Adept.GradObj
