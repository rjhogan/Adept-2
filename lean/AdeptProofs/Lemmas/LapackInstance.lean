import AdeptProofs.Lemmas.Solve
import Mathlib.LinearAlgebra.Matrix.ToLinearEquiv
/-!
# The LAPACK contract of `AdeptModel/Lapack.lean` is satisfiable over every field

`classicalImpl K` solves by `A⁻¹·B` (Mathlib's nonsingular inverse) when `det A ≠ 0` and returns `info = 1`
otherwise; `classicalImpl_contract` proves `Contract (classicalImpl K)`.  Hence the theorems of C16, which
are of the form `∀ L, Contract L → …`, are not vacuous.  Also: the kernel-vector notion of singularity used by
the contract is `det = 0`.  (Proof layer only: noncomputable, never linked into the model driver.)
-/
namespace Adept.Lapack
open Matrix

variable {K : Type} [Field K]

/-- the leading `n × m` block of an index function as a Mathlib matrix -/
def toM (n m : Nat) (M : Nat → Nat → K) : Matrix (Fin n) (Fin m) K := fun i j => M i j

omit [Field K] in
theorem toM_apply (n m : Nat) (M : Nat → Nat → K) (i : Fin n) (j : Fin m) : toM n m M i j = M i j := rfl

theorem sumTo_eq_sum (n : Nat) (f : Nat → K) : sumTo n f = ∑ j : Fin n, f j := by
  induction n with
  | zero => exact (Fin.sum_univ_zero _).symm
  | succ k ih => rw [sumTo, ih, Fin.sum_univ_castSucc]; rfl

theorem sumTo_mul_eq (n m : Nat) (A X : Nat → Nat → K) {i k : Nat} (hi : i < n) (hk : k < m) :
    sumTo n (fun j => A i j * X j k) = (toM n n A * toM n m X) ⟨i, hi⟩ ⟨k, hk⟩ := by
  rw [Matrix.mul_apply]
  exact sumTo_eq_sum n _

theorem sumTo_mulVec (n : Nat) (M : Nat → Nat → K) (v : Nat → K) {i : Nat} (hi : i < n) :
    sumTo n (fun j => M i j * v j) = (toM n n M).mulVec (fun j => v j) ⟨i, hi⟩ := by
  rw [Matrix.mulVec, dotProduct]
  exact sumTo_eq_sum n _

/-- exact singularity in the sense of the contract is `det = 0`: a kernel vector on `Nat` restricts to one on
    `Fin n`, and one on `Fin n` extends by zero -/
theorem singular_iff_det (n : Nat) (M : Nat → Nat → K) : Singular n M ↔ (toM n n M).det = 0 := by
  rw [← Matrix.exists_mulVec_eq_zero_iff]
  constructor
  · rintro ⟨v, ⟨j, hj, hvj⟩, hk⟩
    exact ⟨fun j => v j, fun h0 => hvj (congrFun h0 ⟨j, hj⟩),
      funext fun i => (sumTo_mulVec n M v i.isLt).symm.trans (hk i i.isLt)⟩
  · rintro ⟨w, hw, hmv⟩
    obtain ⟨j, hj⟩ := Function.ne_iff.mp hw
    have hv : (fun j : Fin n => if h : j.val < n then w ⟨j.val, h⟩ else 0) = w := funext fun j => dif_pos j.isLt
    refine ⟨fun j => if h : j < n then w ⟨j, h⟩ else 0, ⟨j, j.isLt, fun h0 => hj ((congrFun hv j).symm.trans h0)⟩,
      fun i hi => ?_⟩
    rw [sumTo_mulVec n M _ hi, hv, hmv]
    exact Pi.zero_apply _

/-- write an `n × m` matrix into a column-major buffer with leading dimension `ld` -/
noncomputable def writeBack (n m ld : Nat) (X : Matrix (Fin n) (Fin m) K) (old : Buf K) : Buf K :=
  fun k => if h : k % ld < n ∧ k / ld < m then X ⟨k % ld, h.1⟩ ⟨k / ld, h.2⟩ else old k

omit [Field K] in
theorem writeBack_geMat {n m ld : Nat} (X : Matrix (Fin n) (Fin m) K) (old : Buf K) (hld : n ≤ ld)
    {i k : Nat} (hi : i < n) (hk : k < m) :
    geMat ld (writeBack n m ld X old) i k = X ⟨i, hi⟩ ⟨k, hk⟩ := by
  have hil : i < ld := Nat.lt_of_lt_of_le hi hld
  simp only [geMat, writeBack, add_mul_mod_of_lt hil, add_mul_div_of_lt hil, hi, hk, and_self, dif_pos]

omit [Field K] in
theorem toM_writeBack {n m ld : Nat} (X : Matrix (Fin n) (Fin m) K) (old : Buf K) (hld : n ≤ ld) :
    toM n m (geMat ld (writeBack n m ld X old)) = X := by
  funext i k
  exact writeBack_geMat X old hld i.isLt k.isLt

open Classical in
/-- solve `M·X = B` for the matrix `M` the routine sees -/
noncomputable def clSolve (M : Nat → Nat → K) (n nrhs : Nat) (a b : Buf K) (ldb : Nat) : SolveOut K :=
  if (toM n n M).det = 0 then { a := a, b := b, info := 1 }
  else { a := a, b := writeBack n nrhs ldb ((toM n n M)⁻¹ * toM n nrhs (geMat ldb b)) b, info := 0 }

open Classical in
noncomputable def clFac (M : Nat → Nat → K) (n : Nat) (a : Buf K) : FacOut K :=
  { a := a, ipiv := [], info := if (toM n n M).det = 0 then 1 else 0 }

open Classical in
noncomputable def clInv (M : Nat → Nat → K) (n : Nat) (a : Buf K) (lda : Nat) : InvOut K :=
  if (toM n n M).det = 0 then { a := a, info := 1 }
  else { a := writeBack n n lda (toM n n M)⁻¹ a, info := 0 }

/-- an implementation by Mathlib's nonsingular inverse (the "factorisation" left by `?getrf`/`?sytrf` is the
    matrix itself: the contract fixes no format) -/
noncomputable def classicalImpl (K : Type) [Field K] : Impl K where
  gesv n nrhs a lda b ldb := clSolve (geMat lda a) n nrhs a b ldb
  sysv u n nrhs a lda b ldb := clSolve (syMat u lda a) n nrhs a b ldb
  getrf n a lda := clFac (geMat lda a) n a
  getri n a lda _ := clInv (geMat lda a) n a lda
  sytrf u n a lda := clFac (syMat u lda a) n a
  sytri u n a lda _ := clInv (syMat u lda a) n a lda

theorem info_of_det {n : Nat} {M : Nat → Nat → K} {info : Int} {_ : Decidable ((toM n n M).det = 0)}
    (h : info = if (toM n n M).det = 0 then 1 else 0) :
    (Singular n M → 0 < info) ∧ (¬ Singular n M → info = 0) ∧ (info = 0 → (toM n n M).det ≠ 0) := by
  rw [singular_iff_det]
  by_cases hdet : (toM n n M).det = 0
  · rw [if_pos hdet] at h
    subst h
    exact ⟨fun _ => Int.one_pos, fun hn => absurd hdet hn, fun h1 => absurd h1 (by decide)⟩
  · rw [if_neg hdet] at h
    subst h
    exact ⟨fun hs => absurd hs hdet, fun _ => rfl, fun _ => hdet⟩

open Classical in
theorem clSolve_info (M : Nat → Nat → K) (n nrhs : Nat) (a b : Buf K) (ldb : Nat) :
    (clSolve M n nrhs a b ldb).info = if (toM n n M).det = 0 then 1 else 0 :=
  apply_ite SolveOut.info _ _ _

open Classical in
theorem clFac_info (M : Nat → Nat → K) (n : Nat) (a : Buf K) :
    (clFac M n a).info = if (toM n n M).det = 0 then 1 else 0 := rfl

theorem clSolve_ok (M : Nat → Nat → K) (n nrhs : Nat) (a b : Buf K) (ldb : Nat) (hld : n ≤ ldb)
    (h0 : (clSolve M n nrhs a b ldb).info = 0) :
    IsSolution n nrhs M (geMat ldb (clSolve M n nrhs a b ldb).b) (geMat ldb b) := by
  have hdet := (info_of_det (clSolve_info M n nrhs a b ldb)).2.2 h0
  rw [clSolve, if_neg hdet]
  intro i hi k hk
  rw [sumTo_mul_eq n nrhs M _ hi hk, toM_writeBack _ _ hld,
    Matrix.mul_nonsing_inv_cancel_left _ _ (isUnit_iff_ne_zero.mpr hdet)]
  exact toM_apply _ _ _ _ _

theorem delta_eq (n : Nat) {i k : Nat} (hi : i < n) (hk : k < n) :
    (delta i k : K) = (1 : Matrix (Fin n) (Fin n) K) ⟨i, hi⟩ ⟨k, hk⟩ := by
  simp [delta, Matrix.one_apply, Fin.ext_iff]

omit [Field K] in
theorem toM_syMat_writeBack {n ld : Nat} (u : Uplo) (X : Matrix (Fin n) (Fin n) K) (old : Buf K) (hld : n ≤ ld)
    (hX : Xᵀ = X) : toM n n (syMat u ld (writeBack n n ld X old)) = X := by
  funext i k
  show syMat u ld (writeBack n n ld X old) i k = X i k
  rw [Solve.syMat_eq]
  split
  · exact writeBack_geMat X old hld i.isLt k.isLt
  · exact (writeBack_geMat X old hld k.isLt i.isLt).trans (congrFun (congrFun hX i) k)

theorem isInverse_of_toM {n : Nat} (M R : Nat → Nat → K) (hdet : (toM n n M).det ≠ 0)
    (hR : toM n n R = (toM n n M)⁻¹) : IsInverse n M R := by
  classical
  intro i hi k hk
  have hu : IsUnit (toM n n M).det := isUnit_iff_ne_zero.mpr hdet
  refine ⟨?_, ?_⟩
  · rw [sumTo_mul_eq n n M R hi hk, hR, Matrix.mul_nonsing_inv _ hu, delta_eq n hi hk]
  · rw [sumTo_mul_eq n n R M hi hk, hR, Matrix.nonsing_inv_mul _ hu, delta_eq n hi hk]

/-- `rd` is how the result is read back: `geMat`, or `syMat`, which reads `M⁻¹` because it is symmetric with `M` -/
theorem clInv_ok (M : Nat → Nat → K) (n : Nat) (a : Buf K) (lda : Nat) (rd : Buf K → Nat → Nat → K)
    (hdet : (toM n n M).det ≠ 0)
    (hrd : toM n n (rd (writeBack n n lda (toM n n M)⁻¹ a)) = (toM n n M)⁻¹) :
    (clInv M n a lda).info = 0 ∧ IsInverse n M (rd (clInv M n a lda).a) := by
  rw [clInv, if_neg hdet]
  exact ⟨rfl, isInverse_of_toM _ _ hdet hrd⟩

theorem inv_syMat_symm (u : Uplo) (n lda : Nat) (a : Buf K) :
    ((toM n n (syMat u lda a))⁻¹)ᵀ = (toM n n (syMat u lda a))⁻¹ := by
  rw [Matrix.transpose_nonsing_inv]
  congr 1
  funext i k
  exact Solve.syMat_symm u lda a k i

/-- **the contract is satisfiable** over every field -/
theorem classicalImpl_contract (K : Type) [Field K] : Contract (classicalImpl K) where
  gesv_ok n nrhs a lda b ldb _ hb h0 := clSolve_ok (geMat lda a) n nrhs a b ldb hb h0
  gesv_sing n nrhs a lda b ldb _ _ := (info_of_det (clSolve_info (geMat lda a) n nrhs a b ldb)).1
  gesv_reg n nrhs a lda b ldb _ _ := (info_of_det (clSolve_info (geMat lda a) n nrhs a b ldb)).2.1
  sysv_ok u n nrhs a lda b ldb _ hb h0 := clSolve_ok (syMat u lda a) n nrhs a b ldb hb h0
  sysv_sing u n nrhs a lda b ldb _ _ := (info_of_det (clSolve_info (syMat u lda a) n nrhs a b ldb)).1
  sysv_reg u n nrhs a lda b ldb _ _ := (info_of_det (clSolve_info (syMat u lda a) n nrhs a b ldb)).2.1
  getrf_sing n a lda _ := (info_of_det (clFac_info (geMat lda a) n a)).1
  getrf_reg n a lda _ := (info_of_det (clFac_info (geMat lda a) n a)).2.1
  getri_ok n a lda hld h0 := clInv_ok _ n a lda (geMat lda) ((info_of_det (clFac_info _ n a)).2.2 h0)
    (toM_writeBack _ _ hld)
  sytrf_sing u n a lda _ := (info_of_det (clFac_info (syMat u lda a) n a)).1
  sytrf_reg u n a lda _ := (info_of_det (clFac_info (syMat u lda a) n a)).2.1
  sytri_ok u n a lda hld h0 := clInv_ok _ n a lda (syMat u lda) ((info_of_det (clFac_info _ n a)).2.2 h0)
    (toM_syMat_writeBack u _ _ hld (inv_syMat_symm u n lda a))

/-- the singular system of the non-vacuity examples: `[[1,1],[1,1]]` as a `ROW_LOWER_COL_UPPER` `SymmMatrix` whose
    unused element is junk; `(1,-1)` is in the kernel -/
theorem singular_ones :
    Singular 2 (Solve.Sym.ofStorage .rowLower 2 0 2 (fun k => [1, (777 : ℚ), 1, 1].getD k 0)).get := by
  refine ⟨fun j => if j = 0 then 1 else -1, ⟨0, Nat.two_pos, one_ne_zero⟩, fun i hi => ?_⟩
  have e : (0 : ℚ) + 1 * 1 + 1 * -1 = 0 := by norm_num
  rcases (by omega : i = 0 ∨ i = 1) with rfl | rfl
  · exact e
  · exact e

end Adept.Lapack
