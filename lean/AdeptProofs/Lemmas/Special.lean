import AdeptModel.Special
import Mathlib.Tactic.Linarith
import Mathlib.Tactic.Ring
import Mathlib.Data.List.Nodup
/-!
Specification vocabulary and helper lemmas for C17 (special matrices).

The specification side (`WF`, `InPattern`, `isSymm`, `Canonical`) is written by hand and does not mention any
generated formula; the lemmas relate it to the *generated* engine functions of
`AdeptModel/Generated/Engines.lean`, so a changed formula in `SpecialMatrix.h` breaks a proof here.

An address depends on the engine only through the storage order at the position (`rowMajorAt`).  Both assignment
loops are loops of stores (`storeSeq`) over the positions `get_row_range` enumerates (`SM.canonPositions`, the positions
`SM.Writes`, with pairwise different addresses), hence `SM.Filled`: the value at every such position, nothing else
touched.  A right-hand side reading the target's own storage is traversed in place; when no store hits what a
DIFFERENT position reads (`SM.SafeFor`: the alias test cleared it, or it is the `noalias(*this)` of a compound
operator) the values can be computed beforehand (`storeSeq_snapshot`), which is plain assignment from a snapshot.
-/

namespace Adept.Special
open Adept.Engines


/-- admissible template arguments (band widths are non-negative) -/
def WF : Engine → Prop
  | .BandEngine_ROW_MAJOR L U => 0 ≤ L ∧ 0 ≤ U
  | .BandEngine_COL_MAJOR L U => 0 ≤ L ∧ 0 ≤ U
  | _ => True

/-- the dense matrix an engine stands for: element (i,j) is not a structural zero -/
def InPattern : Engine → Int → Int → Prop
  | .BandEngine_ROW_MAJOR L U, i, j => i - L ≤ j ∧ j ≤ i + U
  | .BandEngine_COL_MAJOR L U, i, j => i - L ≤ j ∧ j ≤ i + U
  | .LowerEngine_ROW_MAJOR, i, j => j ≤ i
  | .LowerEngine_COL_MAJOR, i, j => j ≤ i
  | .UpperEngine_ROW_MAJOR, i, j => i ≤ j
  | .UpperEngine_COL_MAJOR, i, j => i ≤ j
  | _, _, _ => True

/-- symmetric engines: (i,j) and (j,i) are one stored element -/
def isSymm : Engine → Bool
  | .SymmEngine_ROW_LOWER_COL_UPPER => true
  | .SymmEngine_ROW_UPPER_COL_LOWER => true
  | _ => false

/-- the positions a statement writes (what `get_row_range` has to enumerate): the pattern, and for a symmetric
    engine only the triangle that the orientation designates -/
def Canonical : Engine → Int → Int → Prop
  | .SymmEngine_ROW_LOWER_COL_UPPER, i, j => j ≤ i
  | .SymmEngine_ROW_UPPER_COL_LOWER, i, j => i ≤ j
  | e, i, j => InPattern e i j

/-- row and column of element `t` of diagonal `k` -/
def drow (k t : Int) : Int := if k ≥ 0 then t else t - k
def dcol (k t : Int) : Int := if k ≥ 0 then t + k else t

/-! the non-linear steps, stated once, so that `omega` can do the rest -/

theorem mul_step {a b o : Int} (h : a < b) (ho : 0 ≤ o) : a * o + o ≤ b * o := by
  have := Int.mul_le_mul_of_nonneg_right (show a + 1 ≤ b by omega) ho
  linarith

theorem rowmajor_inj {i j i' j' w o : Int} (hj : 0 ≤ j) (hjw : j < w) (hj' : 0 ≤ j') (hjw' : j' < w) (hw : w ≤ o)
    (h : i * o + j = i' * o + j') : i = i' ∧ j = j' := by
  have ho : 0 ≤ o := by omega
  rcases Int.lt_trichotomy i i' with hlt | heq | hgt
  · have := mul_step hlt ho; omega
  · subst heq; omega
  · have := mul_step hgt ho; omega

theorem colmajor_inj {i j i' j' w o : Int} (hi : 0 ≤ i) (hiw : i < w) (hi' : 0 ≤ i') (hiw' : i' < w) (hw : w ≤ o)
    (h : i + j * o = i' + j' * o) : i = i' ∧ j = j' := by
  have := rowmajor_inj (i := j) (j := i) (i' := j') (j' := i') hi hiw hi' hiw' hw (by omega)
  omega

theorem band_inj {i j i' j' L U o : Int} (hL : 0 ≤ L) (hU : 0 ≤ U) (ho : L + U ≤ o)
    (h1 : i - L ≤ j) (h2 : j ≤ i + U) (h1' : i' - L ≤ j') (h2' : j' ≤ i' + U)
    (h : i * o + j = i' * o + j') : i = i' ∧ j = j' := by
  have ho0 : 0 ≤ o := le_trans (Int.add_nonneg hL hU) ho
  rcases Int.lt_trichotomy i i' with hlt | heq | hgt
  · have := mul_step hlt ho0; omega
  · subst heq; omega
  · have := mul_step hgt ho0; omega


/-! ### closed forms of the generated engine functions

What each generated member reduces to once C++ member lookup (`using`, base classes, the `<COL_MAJOR,0,0>`
specialisation) is resolved.  Engine by engine each equation holds by unfolding, so a changed formula in
`SpecialMatrix.h` breaks it; everything below argues from these and never unfolds `Engines.lean` again. -/

/-- whether an engine addresses (i,j) row-major, at `i*offset + j`; otherwise it is at `i + j*offset`.  The symmetric
    engines store one triangle row-major and address the other through its mirror image. -/
def rowMajorAt : Engine → Int → Int → Bool
  | .SquareEngine_COL_MAJOR, _, _ | .LowerEngine_COL_MAJOR, _, _ | .UpperEngine_COL_MAJOR, _, _ => false
  | .BandEngine_COL_MAJOR L U, _, _ => decide (L = 0 ∧ U = 0)
  | .SymmEngine_ROW_LOWER_COL_UPPER, i, j => decide (j ≤ i)
  | .SymmEngine_ROW_UPPER_COL_LOWER, i, j => decide (i ≤ j)
  | _, _, _ => true

theorem index_eq (e : Engine) (i j o : Int) : e.index i j o = if rowMajorAt e i j then i * o + j else i + j * o := by
  cases e <;> simp only [rowMajorAt, decide_eq_true_eq, Bool.false_eq_true, ↓reduceIte] <;> rfl

theorem pack_offset_eq (e : Engine) (dim : Int) : e.pack_offset dim = match e with
    | .BandEngine_ROW_MAJOR L U | .BandEngine_COL_MAJOR L U => L + U
    | _ => dim := by
  cases e
  case BandEngine_ROW_MAJOR L U => exact (by omega : 1 + L + U - 1 = L + U)
  case BandEngine_COL_MAJOR L U =>
    show (if L = 0 ∧ U = 0 then 1 + 0 + 0 - 1 else 1 + L + U - 1) = L + U
    split_ifs <;> omega
  all_goals rfl

/-- the band engines write `(dim-1)*(offset+1)+1`, the same number -/
theorem data_size_eq (e : Engine) (dim o : Int) : e.data_size dim o = (dim - 1) * o + dim := by
  cases e
  case BandEngine_ROW_MAJOR L U => show (dim - 1) * (o + 1) + 1 = _; ring
  case BandEngine_COL_MAJOR L U =>
    show (if L = 0 ∧ U = 0 then (dim - 1) * (o + 1) + 1 else (dim - 1) * (o + 1) + 1) = _
    rw [ite_self]; ring
  all_goals rfl

theorem transpose_eq (e : Engine) : e.transpose = match e with
    | .SquareEngine_ROW_MAJOR => .SquareEngine_COL_MAJOR
    | .SquareEngine_COL_MAJOR => .SquareEngine_ROW_MAJOR
    | .BandEngine_ROW_MAJOR L U => .BandEngine_COL_MAJOR U L
    | .BandEngine_COL_MAJOR L U => .BandEngine_ROW_MAJOR U L
    | .LowerEngine_ROW_MAJOR => .UpperEngine_COL_MAJOR
    | .LowerEngine_COL_MAJOR => .UpperEngine_ROW_MAJOR
    | .UpperEngine_ROW_MAJOR => .LowerEngine_COL_MAJOR
    | .UpperEngine_COL_MAJOR => .LowerEngine_ROW_MAJOR
    | e => e := by
  cases e
  case BandEngine_COL_MAJOR L U =>
    show (if L = 0 ∧ U = 0 then Engine.BandEngine_ROW_MAJOR 0 0 else .BandEngine_ROW_MAJOR U L) = .BandEngine_ROW_MAJOR U L
    split_ifs with h
    · obtain ⟨rfl, rfl⟩ := h; rfl
    · rfl
  all_goals rfl

instance (e : Engine) (i j : Int) : Decidable (InPattern e i j) := by
  cases e <;> unfold InPattern <;> infer_instance

theorem get_scalar_eq (e : Engine) (i j dim o : Int) :
    e.get_scalar i j dim o = if InPattern e i j then some (e.index i j o) else none := by
  have band (L U x : Int) : (if j - i > U ∨ j - i < -L then none else some x)
      = if i - L ≤ j ∧ j ≤ i + U then some x else none := by split_ifs <;> first | rfl | omega
  cases e
  case BandEngine_ROW_MAJOR L U => exact band L U _
  case BandEngine_COL_MAJOR L U =>
    show (if L = 0 ∧ U = 0 then (if j - i > 0 ∨ j - i < -0 then none else some (i * o + j))
          else if j - i > U ∨ j - i < -L then none else some (i + j * o))
        = if i - L ≤ j ∧ j ≤ i + U then some (if L = 0 ∧ U = 0 then i * o + j else i + j * o) else none
    split_ifs <;> first | rfl | omega
  case LowerEngine_ROW_MAJOR => exact (rfl : (if i ≥ j then some (i * o + j) else none) = if j ≤ i then some (i * o + j) else none)
  case LowerEngine_COL_MAJOR => exact (rfl : (if i ≥ j then some (i + j * o) else none) = if j ≤ i then some (i + j * o) else none)
  case UpperEngine_ROW_MAJOR => rfl
  case UpperEngine_COL_MAJOR => rfl
  all_goals exact (if_pos trivial).symm

theorem overloads_agree (e : Engine) (i j dim offset : Int) :
    e.get_scalar_active i j dim offset = e.get_scalar i j dim offset ∧
    e.get_reference i j dim offset = e.get_scalar i j dim offset ∧
    e.get_reference_active i j dim offset = e.get_scalar i j dim offset := by
  cases e <;> exact ⟨rfl, rfl, rfl⟩

/-- the `<COL_MAJOR,0,0>` specialisation inherits the row-major members: where those, at `L = U = 0`, are what the
    column-major formula gives anyway, the case distinction disappears -/
theorem ite_band {α : Type} (f : Int → Int → α) (L U : Int) : (if L = 0 ∧ U = 0 then f 0 0 else f L U) = f L U := by
  split_ifs with h
  · obtain ⟨rfl, rfl⟩ := h; rfl
  · rfl

theorem row_range_j_start_eq (e : Engine) (i dim o : Int) : e.get_row_range_j_start i dim o = match e with
    | .BandEngine_ROW_MAJOR L _ | .BandEngine_COL_MAJOR L _ => if i < L then 0 else i - L
    | .SymmEngine_ROW_UPPER_COL_LOWER | .UpperEngine_ROW_MAJOR | .UpperEngine_COL_MAJOR => i
    | _ => 0 := by
  cases e
  case BandEngine_COL_MAJOR L U => exact ite_band (fun L _ => if i < L then 0 else i - L) L U
  all_goals rfl

theorem row_range_j_end_eq (e : Engine) (i dim o : Int) : e.get_row_range_j_end_plus_1 i dim o = match e with
    | .BandEngine_ROW_MAJOR _ U | .BandEngine_COL_MAJOR _ U => if i + U + 1 > dim then dim else i + U + 1
    | .SymmEngine_ROW_LOWER_COL_UPPER | .LowerEngine_ROW_MAJOR | .LowerEngine_COL_MAJOR => i + 1
    | _ => dim := by
  cases e
  case BandEngine_COL_MAJOR L U => exact ite_band (fun _ U => if i + U + 1 > dim then dim else i + U + 1) L U
  all_goals rfl

theorem row_range_index_start_eq (e : Engine) (i dim o : Int) : e.get_row_range_index_start i dim o = match e with
    | .SquareEngine_ROW_MAJOR | .SymmEngine_ROW_LOWER_COL_UPPER | .LowerEngine_ROW_MAJOR => i * o
    | .SquareEngine_COL_MAJOR | .LowerEngine_COL_MAJOR => i
    | .BandEngine_ROW_MAJOR L _ => i * o + (if i < L then 0 else i - L)
    | .BandEngine_COL_MAJOR L U =>
        if L = 0 ∧ U = 0 then i * o + (if i < 0 then 0 else i - 0) else i + (if i < L then 0 else i - L) * o
    | .SymmEngine_ROW_UPPER_COL_LOWER => i * (1 + o)
    | .UpperEngine_ROW_MAJOR | .UpperEngine_COL_MAJOR => i * (o + 1) := by
  cases e <;> rfl

theorem row_range_index_stride_eq (e : Engine) (i dim o : Int) : e.get_row_range_index_stride i dim o = match e with
    | .SquareEngine_COL_MAJOR | .LowerEngine_COL_MAJOR | .UpperEngine_COL_MAJOR => o
    | .BandEngine_COL_MAJOR L U => if L = 0 ∧ U = 0 then 1 else o
    | _ => 1 := by
  cases e <;> rfl

theorem value_at_location_eq (e : Engine) (l0 l1 l2 : Int) : e.value_at_location l0 l1 l2 = match e with
    | .BandEngine_ROW_MAJOR _ _ | .BandEngine_COL_MAJOR _ _ => if l0 ≥ l1 ∧ l0 < l2 then some l0 else none
    | .LowerEngine_ROW_MAJOR | .LowerEngine_COL_MAJOR => if l0 ≤ l1 then some l0 else none
    | .UpperEngine_ROW_MAJOR | .UpperEngine_COL_MAJOR => if l0 ≥ l1 then some l0 else none
    | _ => some l0 := by
  cases e
  case BandEngine_COL_MAJOR L U => exact ite_self _
  all_goals rfl

theorem set_extras_1_eq (e : Engine) (i o : Int) : e.set_extras_1 i o = match e with
    | .SquareEngine_ROW_MAJOR | .SquareEngine_COL_MAJOR => 0
    | .BandEngine_ROW_MAJOR L _ => i * (o + 1) - L
    | .BandEngine_COL_MAJOR L U => if L = 0 ∧ U = 0 then i * (o + 1) - 0 else (i - L) * (o + 1) + L
    | _ => i * (o + 1) := by
  cases e <;> rfl

theorem set_extras_2_eq (e : Engine) (i o : Int) : e.set_extras_2 i o = match e with
    | .BandEngine_ROW_MAJOR L U => i * (o + 1) - L + (1 + L + U)
    | .BandEngine_COL_MAJOR L U =>
        if L = 0 ∧ U = 0 then i * (o + 1) - 0 + (1 + 0 + 0) else (i - L) * (o + 1) + L + (1 + L + U - 1) * o + 1
    | _ => 0 := by
  cases e <;> rfl

theorem row_offset_eq (e : Engine) (o l0 l1 l2 : Int) : e.row_offset o l0 l1 l2 = match e with
    | .SquareEngine_COL_MAJOR | .LowerEngine_COL_MAJOR | .UpperEngine_COL_MAJOR => o
    | .BandEngine_COL_MAJOR L U => if L = 0 ∧ U = 0 then 1 else o
    | .SymmEngine_ROW_LOWER_COL_UPPER => if l0 < l1 then 1 else o
    | .SymmEngine_ROW_UPPER_COL_LOWER => if l0 < l1 then o else 1
    | _ => 1 := by
  cases e <;> rfl

/-- `check_upper_diag`, `check_lower_diag` (`true` = throws) -/
theorem check_upper_diag_eq (e : Engine) (k : Int) : e.check_upper_diag k = match e with
    | .BandEngine_ROW_MAJOR _ U | .BandEngine_COL_MAJOR _ U => decide (k > U)
    | .LowerEngine_ROW_MAJOR | .LowerEngine_COL_MAJOR => decide (k > 0)
    | _ => false := by
  cases e
  case BandEngine_COL_MAJOR L U => exact ite_band (fun _ U => decide (k > U)) L U
  all_goals rfl

theorem check_lower_diag_eq (e : Engine) (k : Int) : e.check_lower_diag k = match e with
    | .BandEngine_ROW_MAJOR L _ | .BandEngine_COL_MAJOR L _ => decide (-k > L)
    | .UpperEngine_ROW_MAJOR | .UpperEngine_COL_MAJOR => decide (k < 0)
    | _ => false := by
  cases e
  case BandEngine_COL_MAJOR L U => exact ite_band (fun L _ => decide (-k > L)) L U
  all_goals rfl

theorem upper_offset_eq (e : Engine) (dim o k : Int) : e.upper_offset dim o k = match e with
    | .SquareEngine_COL_MAJOR | .SymmEngine_ROW_LOWER_COL_UPPER | .LowerEngine_COL_MAJOR | .UpperEngine_COL_MAJOR => k * o
    | .BandEngine_COL_MAJOR L U => if L = 0 ∧ U = 0 then k else k * o
    | _ => k := by
  cases e <;> rfl

theorem lower_offset_eq (e : Engine) (dim o k : Int) : e.lower_offset dim o k = match e with
    | .SquareEngine_COL_MAJOR | .SymmEngine_ROW_UPPER_COL_LOWER | .LowerEngine_COL_MAJOR | .UpperEngine_COL_MAJOR => -k
    | .BandEngine_COL_MAJOR L U => if L = 0 ∧ U = 0 then (-k) * o else -k
    | _ => (-k) * o := by
  cases e <;> rfl


theorem symm_all_pattern (e : Engine) (hs : isSymm e = true) (i j : Int) : InPattern e i j := by
  cases e
  case SymmEngine_ROW_LOWER_COL_UPPER | SymmEngine_ROW_UPPER_COL_LOWER => trivial
  all_goals exact absurd hs Bool.false_ne_true

theorem transpose_pattern (e : Engine) (i j : Int) : InPattern e.transpose i j ↔ InPattern e j i := by
  rw [transpose_eq]
  cases e <;> simp only [InPattern] <;> omega

/-- on the diagonal the two storage orders give the same address, the one `set_extras` keeps per row -/
theorem index_diag (e : Engine) (i o : Int) : e.index i i o = i * (o + 1) := by
  rw [index_eq]
  split_ifs <;> ring

theorem rowMajorAt_transpose (e : Engine) (i j : Int) (h : InPattern e j i) :
    i = j ∨ rowMajorAt e.transpose i j = !rowMajorAt e j i := by
  rw [transpose_eq]
  cases e
  -- a band engine and its transpose engine have opposite orders, except `<COL_MAJOR,0,0>`, which is row-major like
  -- its transpose engine but whose pattern is the diagonal
  case BandEngine_ROW_MAJOR L U | BandEngine_COL_MAJOR L U =>
    simp only [rowMajorAt, InPattern, Bool.not_true, decide_eq_false_iff_not, ← decide_not, true_eq_decide_iff] at h ⊢
    omega
  -- a symmetric engine is its own transpose engine: opposite triangles
  case SymmEngine_ROW_LOWER_COL_UPPER | SymmEngine_ROW_UPPER_COL_LOWER =>
    simp only [rowMajorAt, ← decide_not, decide_eq_decide]
    omega
  all_goals exact Or.inr rfl

theorem transpose_index (e : Engine) (i j o : Int) (h : InPattern e j i) : e.transpose.index i j o = e.index j i o := by
  rcases rowMajorAt_transpose e i j h with rfl | hT
  · rw [index_diag, index_diag]
  · rw [index_eq, index_eq, hT]
    cases rowMajorAt e j i <;> exact add_comm _ _

theorem transpose_symm (e : Engine) (hs : isSymm e = true) : e.transpose = e := by
  rw [transpose_eq]
  cases e
  case SymmEngine_ROW_LOWER_COL_UPPER | SymmEngine_ROW_UPPER_COL_LOWER => rfl
  all_goals exact absurd hs Bool.false_ne_true

theorem index_mirror (e : Engine) (hs : isSymm e = true) (i j offset : Int) :
    e.index i j offset = e.index j i offset := by
  have h := transpose_index e i j offset (symm_all_pattern e hs j i)
  rwa [transpose_symm e hs] at h

theorem transpose_get_scalar (e : Engine) (i j dim offset : Int) :
    e.transpose.get_scalar i j dim offset = e.get_scalar j i dim offset := by
  rw [get_scalar_eq, get_scalar_eq]
  by_cases h : InPattern e j i
  · rw [if_pos h, if_pos ((transpose_pattern e i j).2 h), transpose_index e i j offset h]
  · rw [if_neg h, if_neg (fun h' => h ((transpose_pattern e i j).1 h'))]

theorem transpose_wf (e : Engine) (he : WF e) : WF e.transpose := by
  rw [transpose_eq]
  cases e
  case BandEngine_ROW_MAJOR L U | BandEngine_COL_MAJOR L U => exact ⟨he.2, he.1⟩
  all_goals trivial

theorem transpose_sizes (e : Engine) (dim offset : Int) :
    e.transpose.pack_offset dim = e.pack_offset dim ∧ e.transpose.data_size dim offset = e.data_size dim offset := by
  rw [data_size_eq, data_size_eq, pack_offset_eq, pack_offset_eq, transpose_eq]
  cases e
  case BandEngine_ROW_MAJOR L U | BandEngine_COL_MAJOR L U => exact ⟨Int.add_comm _ _, rfl⟩
  all_goals exact ⟨rfl, rfl⟩

theorem transpose_transpose (e : Engine) : e.transpose.transpose = e := by
  rw [transpose_eq, transpose_eq]
  cases e <;> rfl

theorem index_injective (e : Engine) (he : WF e) (dim offset i j i' j' : Int)
    (ho : e.pack_offset dim ≤ offset) (hi0 : 0 ≤ i) (hi : i < dim) (hj0 : 0 ≤ j) (hj : j < dim)
    (hi0' : 0 ≤ i') (hi' : i' < dim) (hj0' : 0 ≤ j') (hj' : j' < dim)
    (hp : InPattern e i j) (hp' : InPattern e i' j')
    (h : e.index i j offset = e.index i' j' offset) :
    (i = i' ∧ j = j') ∨ (isSymm e = true ∧ i = j' ∧ j = i') := by
  rw [pack_offset_eq] at ho
  rw [index_eq, index_eq] at h
  cases e <;> simp only [WF, InPattern, rowMajorAt, decide_eq_true_eq, Bool.false_eq_true, ↓reduceIte] at he hp hp' ho h <;>
    simp only [isSymm]
  case SquareEngine_ROW_MAJOR | LowerEngine_ROW_MAJOR | UpperEngine_ROW_MAJOR =>
    exact Or.inl (rowmajor_inj hj0 hj hj0' hj' ho h)
  case SquareEngine_COL_MAJOR | LowerEngine_COL_MAJOR | UpperEngine_COL_MAJOR =>
    exact Or.inl (colmajor_inj hi0 hi hi0' hi' ho h)
  case BandEngine_ROW_MAJOR L U => exact Or.inl (band_inj he.1 he.2 ho hp.1 hp.2 hp'.1 hp'.2 h)
  case BandEngine_COL_MAJOR L U =>
    left
    split_ifs at h
    · exact band_inj he.1 he.2 ho hp.1 hp.2 hp'.1 hp'.2 h
    · have := band_inj (i := j) (j := i) (i' := j') (j' := i') (o := offset) he.2 he.1 (by omega)
        (by omega) (by omega) (by omega) (by omega) (by omega)
      omega
  -- symmetric engines: fold both positions into the triangle stored row-major, where `rowmajor_inj` applies
  case SymmEngine_ROW_LOWER_COL_UPPER | SymmEngine_ROW_UPPER_COL_LOWER =>
    split_ifs at h
    · exact Or.inl (rowmajor_inj hj0 hj hj0' hj' ho h)
    · have := rowmajor_inj hj0 hj hi0' hi' ho (h.trans (add_comm _ _))
      exact Or.inr ⟨trivial, this.1, this.2⟩
    · have := rowmajor_inj hi0 hi hj0' hj' ho ((add_comm _ _).trans h)
      exact Or.inr ⟨trivial, this.2, this.1⟩
    · exact Or.inl (colmajor_inj hi0 hi hi0' hi' ho h)

theorem pack_offset_nonneg (e : Engine) (he : WF e) (dim : Int) (hd : 1 ≤ dim) : 0 ≤ e.pack_offset dim := by
  rw [pack_offset_eq]
  cases e <;> simp only [WF] at he ⊢ <;> omega

theorem index_in_range (e : Engine) (he : WF e) (dim offset i j : Int) (hd : 1 ≤ dim)
    (ho : e.pack_offset dim ≤ offset) (hi0 : 0 ≤ i) (hi : i < dim) (hj0 : 0 ≤ j) (hj : j < dim) :
    0 ≤ e.index i j offset ∧ e.index i j offset < e.data_size dim offset := by
  have hoo : 0 ≤ offset := le_trans (pack_offset_nonneg e he dim hd) ho
  have f1 := Int.mul_le_mul_of_nonneg_right hi0 hoo
  have f2 := Int.mul_le_mul_of_nonneg_right (show i ≤ dim - 1 by omega) hoo
  have f3 := Int.mul_le_mul_of_nonneg_right hj0 hoo
  have f4 := Int.mul_le_mul_of_nonneg_right (show j ≤ dim - 1 by omega) hoo
  rw [data_size_eq, index_eq]
  split_ifs <;> omega

theorem row_range_spec (e : Engine) (he : WF e) (dim offset i : Int) (hi0 : 0 ≤ i) (hi : i < dim) :
    (∀ j, (e.get_row_range_j_start i dim offset ≤ j ∧ j < e.get_row_range_j_end_plus_1 i dim offset) ↔
          (0 ≤ j ∧ j < dim ∧ Canonical e i j)) ∧
    (∀ j, e.get_row_range_j_start i dim offset ≤ j → j < e.get_row_range_j_end_plus_1 i dim offset →
          e.get_row_range_index_start i dim offset
            + (j - e.get_row_range_j_start i dim offset) * e.get_row_range_index_stride i dim offset
          = e.index i j offset) := by
  constructor
  · simp only [row_range_j_start_eq, row_range_j_end_eq]
    cases e <;> simp only [WF, Canonical, InPattern, and_true] at he ⊢ <;> intro j <;> omega
  · simp only [row_range_j_start_eq, row_range_j_end_eq, row_range_index_start_eq, row_range_index_stride_eq, index_eq]
    cases e <;> simp only [rowMajorAt, decide_eq_true_eq, Bool.false_eq_true, ↓reduceIte] <;> intro j h1 h2
    -- a polynomial identity (in `j_start` too) once the storage order is decided; inside the range a symmetric
    -- engine is in its row-major triangle
    case BandEngine_COL_MAJOR L U =>
      by_cases c : L = 0 ∧ U = 0
      · obtain ⟨rfl, rfl⟩ := c
        simp only [and_self, ↓reduceIte]
        ring1
      · simp only [if_neg c]
        ring1
    case SymmEngine_ROW_LOWER_COL_UPPER =>
      rw [if_pos (by omega)]
      ring1
    case SymmEngine_ROW_UPPER_COL_LOWER =>
      rw [if_pos h1]
      ring1
    all_goals ring1


theorem mul_le_iff {a b o : Int} (ho : 1 ≤ o) : a * o ≤ b * o ↔ a ≤ b :=
  ⟨fun h => Int.le_of_mul_le_mul_right h (by omega), fun h => Int.mul_le_mul_of_nonneg_right h (by omega)⟩

theorem band_row_test (i j o L U : Int) :
    (i * o + j ≥ i * (o + 1) - L ∧ i * o + j < i * (o + 1) - L + (1 + L + U)) ↔ (i - L ≤ j ∧ j ≤ i + U) := by
  have e1 : i * (o + 1) = i * o + i := by ring
  rw [e1]; omega

theorem band_col_test (i j o L U : Int) (ho : 1 ≤ o) :
    (i + j * o ≥ (i - L) * (o + 1) + L ∧ i + j * o < (i - L) * (o + 1) + L + (1 + L + U - 1) * o + 1)
      ↔ (i - L ≤ j ∧ j ≤ i + U) := by
  have e1 : (i - L) * (o + 1) = (i - L) * o + (i - L) := by ring
  have e2 : (i + U) * o = (i - L) * o + (1 + L + U - 1) * o := by ring
  have h1 := mul_le_iff (a := i - L) (b := j) ho
  have h2 := mul_le_iff (a := j) (b := i + U) ho
  rw [e1]; omega

/-- against the row's diagonal location `i*(offset+1)` the difference is `j - i` row-major, `(j - i)*offset`
    column-major: the same sign -/
theorem index_le_diag (e : Engine) (i j o : Int) (ho : 1 ≤ o) : e.index i j o ≤ i * (o + 1) ↔ j ≤ i := by
  have e1 : i * (o + 1) = i * o + i := by ring
  have h := mul_le_iff (a := j) (b := i) ho
  rw [index_eq, e1]
  split_ifs <;> omega

theorem index_ge_diag (e : Engine) (i j o : Int) (ho : 1 ≤ o) : e.index i j o ≥ i * (o + 1) ↔ i ≤ j := by
  have e1 : i * (o + 1) = i * o + i := by ring
  have h := mul_le_iff (a := i) (b := j) ho
  rw [index_eq, e1]
  split_ifs <;> omega

theorem index_lt_diag (e : Engine) (i j o : Int) (ho : 1 ≤ o) : e.index i j o < i * (o + 1) ↔ j < i := by
  rw [← not_le, ← not_le]
  exact not_congr (index_ge_diag e i j o ho)

theorem value_at_spec (e : Engine) (he : WF e) (dim offset i j : Int) (hd : 1 ≤ dim) (ho : e.pack_offset dim ≤ offset) :
    e.value_at_location (e.index i j offset) (e.set_extras_1 i offset) (e.set_extras_2 i offset)
      = e.get_scalar i j dim offset := by
  rw [pack_offset_eq] at ho
  rw [value_at_location_eq, set_extras_1_eq, set_extras_2_eq, get_scalar_eq]
  cases e <;> simp only [WF, InPattern] at he ho ⊢
  -- square and symmetric engines make no test and have no structural zero
  case SquareEngine_ROW_MAJOR | SquareEngine_COL_MAJOR | SymmEngine_ROW_LOWER_COL_UPPER | SymmEngine_ROW_UPPER_COL_LOWER =>
    exact (if_pos trivial).symm
  case BandEngine_ROW_MAJOR L U => exact if_congr (band_row_test i j offset L U) rfl rfl
  case BandEngine_COL_MAJOR L U =>
    rw [index_eq]
    by_cases h0 : L = 0 ∧ U = 0
    · simp only [rowMajorAt, decide_eq_true_eq, if_pos h0]
      obtain ⟨rfl, rfl⟩ := h0
      exact if_congr (band_row_test i j offset 0 0) rfl rfl
    · simp only [rowMajorAt, decide_eq_true_eq, if_neg h0]
      exact if_congr (band_col_test i j offset L U (by omega)) rfl rfl
  case LowerEngine_ROW_MAJOR | LowerEngine_COL_MAJOR => exact if_congr (index_le_diag _ i j offset (by omega)) rfl rfl
  case UpperEngine_ROW_MAJOR | UpperEngine_COL_MAJOR => exact if_congr (index_ge_diag _ i j offset (by omega)) rfl rfl

theorem advance_spec (e : Engine) (dim offset i j : Int) (hd : 1 ≤ dim) (ho : e.pack_offset dim ≤ offset) :
    e.index i j offset + e.row_offset offset (e.index i j offset) (e.set_extras_1 i offset) (e.set_extras_2 i offset)
      = e.index i (j + 1) offset := by
  rw [pack_offset_eq] at ho
  rw [row_offset_eq, set_extras_1_eq]
  cases e <;> simp only at ho ⊢
  -- the symmetric engines compare the running index with the diagonal element `i*(offset+1)` of the row, so the
  -- step is 1 on one side of the diagonal and `offset` on the other, and the storage order changes where the
  -- row crosses the diagonal
  case SymmEngine_ROW_LOWER_COL_UPPER =>
    rw [if_congr (index_lt_diag _ i j offset (by omega)) rfl rfl, index_eq, index_eq]
    simp only [rowMajorAt, decide_eq_true_eq]
    obtain h | rfl | h : j < i ∨ j = i ∨ i < j := lt_trichotomy j i
    · rw [if_pos h, if_pos h.le, if_pos (Int.add_one_le_of_lt h)]; ring
    · rw [if_neg (lt_irrefl j), if_pos le_rfl, if_neg (by omega)]; ring
    · rw [if_neg (by omega), if_neg (by omega), if_neg (by omega)]; ring
  case SymmEngine_ROW_UPPER_COL_LOWER =>
    rw [if_congr (index_lt_diag _ i j offset (by omega)) rfl rfl, index_eq, index_eq]
    simp only [rowMajorAt, decide_eq_true_eq]
    obtain h | rfl | h : j + 1 < i ∨ j + 1 = i ∨ i ≤ j := by omega
    · rw [if_neg (by omega), if_pos (by omega), if_neg (by omega)]; ring
    · rw [if_neg (by omega), if_pos (by omega), if_pos le_rfl]; ring
    · rw [if_pos h, if_neg (by omega), if_pos (by omega)]; ring
  all_goals
    rw [index_eq, index_eq]
    simp only [rowMajorAt, decide_eq_true_eq, Bool.false_eq_true, ↓reduceIte]
  case BandEngine_COL_MAJOR L U => split_ifs <;> ring
  all_goals ring

theorem rowMajorAt_shift (e : Engine) (a i j : Int) : rowMajorAt e (a + i) (a + j) = rowMajorAt e i j := by
  cases e <;> first | rfl | exact decide_eq_decide.2 (Int.add_le_add_iff_left a)

theorem pattern_shift (e : Engine) (a i j : Int) : InPattern e (a + i) (a + j) ↔ InPattern e i j := by
  cases e <;> simp only [InPattern] <;> omega

theorem index_shift (e : Engine) (a i j o : Int) : e.index (a + i) (a + j) o = (o + 1) * a + e.index i j o := by
  rw [index_eq, index_eq, rowMajorAt_shift]
  split_ifs <;> ring

/-! diagonals: element `t` of `diag_vector(k)` is the stored element (t, t+k) for `k ≥ 0`, (t-k, t) for `k < 0`, and
    `check_upper_diag` / `check_lower_diag` throw exactly when that diagonal lies outside the pattern -/

theorem check_upper_diag_false_iff (e : Engine) (he : WF e) (k t : Int) (hk : 0 ≤ k) :
    e.check_upper_diag k = false ↔ InPattern e t (t + k) := by
  rw [check_upper_diag_eq]
  cases e <;> simp only [WF, InPattern, decide_eq_false_iff_not, true_iff] at he ⊢ <;> omega

theorem upper_offset_eq_index (e : Engine) (dim o k : Int) (hk : 0 ≤ k) : e.upper_offset dim o k = e.index 0 k o := by
  have h0 : k = 0 → k * o = 0 := by rintro rfl; ring
  rw [upper_offset_eq, index_eq]
  cases e <;> simp only [rowMajorAt, decide_eq_true_eq, Bool.false_eq_true, ↓reduceIte, zero_mul, zero_add] <;> omega

theorem upper_offset_index (e : Engine) (dim offset k t : Int) (hk : 0 ≤ k) :
    e.upper_offset dim offset k + t * (offset + 1) = e.index t (t + k) offset := by
  have h := index_shift e t 0 k offset
  rw [add_zero] at h
  rw [h, upper_offset_eq_index e dim offset k hk]
  ring

theorem check_lower_diag_false_iff (e : Engine) (he : WF e) (k t : Int) (hk : k < 0) :
    e.check_lower_diag k = false ↔ InPattern e (t - k) t := by
  rw [check_lower_diag_eq]
  cases e <;> simp only [WF, InPattern, decide_eq_false_iff_not, true_iff] at he ⊢ <;> omega

theorem lower_offset_eq_index (e : Engine) (dim o k : Int) (hk : k < 0) : e.lower_offset dim o k = e.index (-k) 0 o := by
  rw [lower_offset_eq, index_eq]
  cases e <;> simp only [rowMajorAt, decide_eq_true_eq, Bool.false_eq_true, ↓reduceIte, zero_mul, add_zero] <;> omega

theorem lower_offset_index (e : Engine) (dim offset k t : Int) (hk : k < 0) :
    e.lower_offset dim offset k + t * (offset + 1) = e.index (t - k) t offset := by
  have h := index_shift e t (-k) 0 offset
  rw [add_zero, ← sub_eq_add_neg] at h
  rw [h, lower_offset_eq_index e dim offset k hk]
  ring

theorem shift_spec (e : Engine) (a i j dim dim' offset : Int) :
    e.get_scalar (a + i) (a + j) dim offset = (e.get_scalar i j dim' offset).map (fun k => (offset + 1) * a + k) := by
  rw [get_scalar_eq, get_scalar_eq, index_shift]
  by_cases h : InPattern e i j
  · rw [if_pos h, if_pos ((pattern_shift e a i j).2 h)]; rfl
  · rw [if_neg h, if_neg (fun h' => h ((pattern_shift e a i j).1 h'))]; rfl

theorem pack_offset_mono (e : Engine) (dim dim' : Int) (h : dim' ≤ dim) : e.pack_offset dim' ≤ e.pack_offset dim := by
  rw [pack_offset_eq, pack_offset_eq]
  cases e <;> dsimp only <;> omega


structure SM.Adm (m : SM) : Prop where
  wf : WF m.e
  dim_pos : 1 ≤ m.dim
  off : m.e.pack_offset m.dim ≤ m.offset

theorem SM.get_eq (m : SM) (d : Raw) (i j : Int) :
    (InPattern m.e i j → m.get d i j = d (m.base + m.e.index i j m.offset)) ∧
    (¬ InPattern m.e i j → m.get d i j = 0) := by
  constructor
  · intro hp; simp only [SM.get, get_scalar_eq, if_pos hp]
  · intro hp; simp only [SM.get, get_scalar_eq, if_neg hp]

theorem SM.ref_eq (m : SM) (act : Bool) (i j : Int) :
    (InPattern m.e i j → m.ref act i j = some (m.base + m.e.index i j m.offset)) ∧
    (¬ InPattern m.e i j → m.ref act i j = none) := by
  have ho := overloads_agree m.e i j m.dim m.offset
  constructor
  · intro hp; cases act <;> simp [SM.ref, ho.2.1, ho.2.2, get_scalar_eq, if_pos hp]
  · intro hp; cases act <;> simp [SM.ref, ho.2.1, ho.2.2, get_scalar_eq, if_neg hp]

/-- a write through `M(i,j)` changes the dense view at (i,j), at its mirror image for a symmetric engine, and
    nowhere else -/
theorem SM.write_hits_one (m : SM) (ha : m.Adm) (d : Raw) (act : Bool) (i j k v : Int)
    (hi0 : 0 ≤ i) (hi : i < m.dim) (hj0 : 0 ≤ j) (hj : j < m.dim) (href : m.ref act i j = some k)
    (i' j' : Int) (hi0' : 0 ≤ i') (hi' : i' < m.dim) (hj0' : 0 ≤ j') (hj' : j' < m.dim) :
    m.get (d.set k v) i' j' =
      if (i' = i ∧ j' = j) ∨ (isSymm m.e = true ∧ i' = j ∧ j' = i) then v else m.get d i' j' := by
  have hp : InPattern m.e i j := by
    by_contra hn
    rw [(m.ref_eq act i j).2 hn] at href
    exact absurd href (by simp)
  have hk : k = m.base + m.e.index i j m.offset := by
    rw [(m.ref_eq act i j).1 hp] at href
    exact (Option.some.inj href).symm
  by_cases hp' : InPattern m.e i' j'
  · rw [(m.get_eq _ i' j').1 hp', (m.get_eq d i' j').1 hp']
    simp only [Raw.set_apply, hk]
    by_cases hc : (i' = i ∧ j' = j) ∨ (isSymm m.e = true ∧ i' = j ∧ j' = i)
    · rw [if_pos hc]
      rcases hc with ⟨rfl, rfl⟩ | ⟨hs, rfl, rfl⟩
      · simp
      · rw [index_mirror m.e hs]; simp
    · rw [if_neg hc, if_neg]
      intro heq
      have := index_injective m.e ha.wf m.dim m.offset i' j' i j ha.off hi0' hi' hj0' hj' hi0 hi hj0 hj hp' hp (by omega)
      exact hc this
  · rw [(m.get_eq _ i' j').2 hp', (m.get_eq d i' j').2 hp', if_neg]
    rintro (⟨rfl, rfl⟩ | ⟨hs, _, _⟩)
    · exact hp' hp
    · exact hp' (symm_all_pattern m.e hs i' j')

theorem SM.T_adm (m : SM) (ha : m.Adm) : m.T.Adm :=
  ⟨transpose_wf _ ha.wf, ha.dim_pos, by
    show m.e.transpose.pack_offset m.dim ≤ m.offset
    rw [(transpose_sizes m.e m.dim m.offset).1]; exact ha.off⟩

theorem SM.T_get (m : SM) (d : Raw) (i j : Int) : m.T.get d i j = m.get d j i := by
  simp only [SM.get, SM.T]
  rw [transpose_get_scalar]

theorem SM.advance_setLocation (m : SM) (ha : m.Adm) (i j : Int) :
    m.advance (m.setLocation i j) = m.setLocation i (j + 1) := by
  simp only [SM.advance, SM.setLocation]
  rw [advance_spec m.e m.dim m.offset i j ha.dim_pos ha.off]

theorem SM.valueAt_setLocation (m : SM) (ha : m.Adm) (d : Raw) (i j : Int) :
    m.valueAt d (m.setLocation i j) = m.get d i j := by
  simp only [SM.valueAt, SM.setLocation, SM.get]
  rw [value_at_spec m.e ha.wf m.dim m.offset i j ha.dim_pos ha.off]

theorem map_range_succ {α : Type} (f : Nat → α) (n : Nat) :
    (List.range (n + 1)).map f = f 0 :: (List.range n).map (fun t => f (t + 1)) := by
  rw [List.range_succ_eq_map, List.map_cons, List.map_map]
  rfl

theorem SM.rowFrom_spec (m : SM) (ha : m.Adm) (d : Raw) (i : Int) :
    ∀ (n : Nat) (j0 : Int),
      m.rowFrom d (m.setLocation i j0) n = (List.range n).map (fun (t : Nat) => m.get d i (j0 + (t : Int))) := by
  intro n
  induction n with
  | zero => intro j0; rfl
  | succ n ih =>
    intro j0
    rw [SM.rowFrom, m.valueAt_setLocation ha, m.advance_setLocation ha, ih (j0 + 1), map_range_succ]
    congr 1
    · rw [Nat.cast_zero, add_zero]
    · exact List.map_congr_left (fun t _ => by rw [Nat.cast_succ, add_assoc, add_comm 1])


/-- one branch of `diag_vector`: `chk` throws exactly when the diagonal, whose element `t` is position `(r t, c t)`,
    lies outside the pattern, and `off` is the raw offset of its element 0 -/
theorem SM.diag_branch (m : SM) (chk : Bool) (off len : Int) (r c : Int → Int)
    (hchk : ∀ t, chk = false ↔ InPattern m.e (r t) (c t))
    (hoff : ∀ t, off + t * (m.offset + 1) = m.e.index (r t) (c t) m.offset) :
    (∀ v, (if chk then none else some (Vec.mk (m.base + off) len (m.offset + 1))) = some v →
        v.len = len ∧
        ∀ (d : Raw) (t : Int), InPattern m.e (r t) (c t) ∧ d (v.base + t * v.stride) = m.get d (r t) (c t)) ∧
    ((if chk then none else some (Vec.mk (m.base + off) len (m.offset + 1))) = none →
        ∀ (d : Raw) (t : Int), ¬ InPattern m.e (r t) (c t) ∧ m.get d (r t) (c t) = 0) := by
  cases chk
  · refine ⟨fun v hv => ?_, fun hn => (by cases hn)⟩
    cases hv
    refine ⟨rfl, fun d t => ?_⟩
    have hp := (hchk t).1 rfl
    rw [(m.get_eq d _ _).1 hp, ← hoff t, Int.add_assoc]
    exact ⟨hp, rfl⟩
  · refine ⟨fun v hv => (by cases hv), fun _ d t => ?_⟩
    have hp : ¬ InPattern m.e (r t) (c t) := fun h => Bool.noConfusion ((hchk t).2 h)
    exact ⟨hp, (m.get_eq d _ _).2 hp⟩

/-- the value an expression denotes at (i,j) -/
def RExpr.val : RExpr → Int → Int → Int
  | .sm m d, i, j => m.get d i j
  | .dense f, i, j => f i j
  | .scale a c, i, j => a.val i j * c
  | .add a b, i, j => a.val i j + b.val i j
  | .bin o a b, i, j => o.apply (a.val i j) (b.val i j)
  | .binc o a c, i, j => o.apply (a.val i j) c

def RExpr.AllAdm : RExpr → Prop
  | .sm m _ => m.Adm
  | .dense _ => True
  | .scale a _ => a.AllAdm
  | .add a b => a.AllAdm ∧ b.AllAdm
  | .bin _ a b => a.AllAdm ∧ b.AllAdm
  | .binc _ a _ => a.AllAdm

theorem RExpr.row_spec (r : RExpr) (hr : r.AllAdm) (i j0 : Int) (n : Nat) :
    r.row i j0 n = (List.range n).map (fun (t : Nat) => r.val i (j0 + (t : Int))) := by
  induction r with
  | sm m d => exact m.rowFrom_spec hr d i n j0
  | dense f => rfl
  | scale a c ih | binc o a c ih =>
    simp only [RExpr.row, RExpr.val, ih hr, List.map_map, Function.comp_def]
  | add a b iha ihb | bin o a b iha ihb =>
    simp only [RExpr.row, RExpr.val, iha hr.1, ihb hr.2, List.zipWith_map, List.zipWith_self]


/-- a loop of stores: for each `p` of `l` in turn, the value `g d p`, computed from the storage `d` as it is then, goes
    to raw element `a p` -/
def storeSeq {α : Type} (a : α → Int) (g : Raw → α → Int) (l : List α) (d : Raw) : Raw :=
  l.foldl (fun d p => d.set (a p) (g d p)) d

theorem storeSeq_cons {α : Type} (a : α → Int) (g : Raw → α → Int) (p : α) (l : List α) (d : Raw) :
    storeSeq a g (p :: l) d = storeSeq a g l (d.set (a p) (g d p)) := rfl

theorem storeSeq_map {α β : Type} (a : α → Int) (g : Raw → α → Int) (h : β → α) (l : List β) (d : Raw) :
    storeSeq a g (l.map h) d = storeSeq (fun x => a (h x)) (fun d x => g d (h x)) l d := List.foldl_map

theorem storeSeq_congr {α : Type} {a a' : α → Int} {g g' : Raw → α → Int} {l : List α} (d : Raw)
    (ha : ∀ p ∈ l, a p = a' p) (hg : ∀ d, ∀ p ∈ l, g d p = g' d p) : storeSeq a g l d = storeSeq a' g' l d :=
  List.foldl_ext _ _ _ (fun d p hp => by rw [ha p hp, hg d p hp])

theorem storeSeq_miss {α : Type} (a : α → Int) (g : Raw → α → Int) (k : Int) :
    ∀ (l : List α) (d : Raw), (∀ p ∈ l, a p ≠ k) → storeSeq a g l d k = d k := by
  intro l
  induction l with
  | nil => intro d _; rfl
  | cons p l ih =>
    intro d h
    rw [storeSeq_cons, ih _ (fun q hq => h q (List.mem_cons_of_mem p hq)), Raw.set_apply,
      if_neg (fun hk => h p List.mem_cons_self hk.symm)]

theorem storeSeq_hit {α : Type} (a : α → Int) (v : α → Int) :
    ∀ (l : List α) (d : Raw), (l.map a).Nodup → ∀ p ∈ l, storeSeq a (fun _ => v) l d (a p) = v p := by
  intro l
  induction l with
  | nil => intro d _ p hp; cases hp
  | cons q l ih =>
    intro d hnd p hp
    rw [List.map_cons, List.nodup_cons] at hnd
    rw [storeSeq_cons]
    rcases List.mem_cons.1 hp with rfl | hp
    · rw [storeSeq_miss a _ (a p) l _ (fun q hq h => hnd.1 (h ▸ List.mem_map_of_mem hq)), Raw.set_apply, if_pos rfl]
    · exact ih _ hnd.2 p hp

/-- if what `g · p` depends on is never stored for another position of `L`, the values can be computed beforehand -/
theorem storeSeq_snapshot {α : Type} (a : α → Int) (g : Raw → α → Int) (L : List α) (d0 : Raw)
    (H : ∀ p ∈ L, ∀ d : Raw, (∀ k, (∀ q ∈ L, q ≠ p → k ≠ a q) → d k = d0 k) → g d p = g d0 p) :
    ∀ (l : List α) (d : Raw), l.Nodup → (∀ p ∈ l, p ∈ L) →
      (∀ p ∈ l, ∀ k, (∀ q ∈ L, q ≠ p → k ≠ a q) → d k = d0 k) →
      storeSeq a g l d = storeSeq a (fun _ => g d0) l d := by
  intro l
  induction l with
  | nil => intro _ _ _ _; rfl
  | cons p l ih =>
    intro d hnd hL hd
    rw [List.nodup_cons] at hnd
    have hpL := hL p List.mem_cons_self
    rw [storeSeq_cons, storeSeq_cons, H p hpL d (hd p List.mem_cons_self)]
    refine ih _ hnd.2 (fun q hq => hL q (List.mem_cons_of_mem p hq)) (fun q hq k hk => ?_)
    rw [Raw.set_apply, if_neg (hk p hpL (fun h => hnd.1 (by rw [h]; exact hq))), hd q (List.mem_cons_of_mem p hq) k hk]

theorem canonical_pattern (e : Engine) (i j : Int) (h : Canonical e i j) : InPattern e i j := by
  cases e <;> simp only [Canonical, InPattern] at h ⊢ <;> trivial

/-- (i,j) is a position `get_row_range` enumerates, i.e. one a statement with target `m` writes -/
def SM.Writes (m : SM) (i j : Int) : Prop := 0 ≤ i ∧ i < m.dim ∧ 0 ≤ j ∧ j < m.dim ∧ Canonical m.e i j

theorem canonical_antisymm (e : Engine) (hs : isSymm e = true) {i j : Int} (h : Canonical e i j) (h' : Canonical e j i) :
    i = j := by
  cases e
  case SymmEngine_ROW_LOWER_COL_UPPER => exact le_antisymm h' h
  case SymmEngine_ROW_UPPER_COL_LOWER => exact le_antisymm h h'
  all_goals exact absurd hs Bool.false_ne_true

theorem SM.writes_inj (m : SM) (ha : m.Adm) {i j i' j' : Int} (h : m.Writes i j) (h' : m.Writes i' j')
    (heq : m.e.index i j m.offset = m.e.index i' j' m.offset) : i = i' ∧ j = j' := by
  obtain ⟨hi0, hi, hj0, hj, hc⟩ := h
  obtain ⟨hi0', hi', hj0', hj', hc'⟩ := h'
  rcases index_injective m.e ha.wf m.dim m.offset i j i' j' ha.off hi0 hi hj0 hj hi0' hi' hj0' hj'
      (canonical_pattern _ i j hc) (canonical_pattern _ i' j' hc') heq with h1 | ⟨hs, rfl, rfl⟩
  · exact h1
  · have hij := canonical_antisymm m.e hs hc hc'
    exact ⟨hij, hij.symm⟩

/-- columns of row `i` that `get_row_range` enumerates -/
def SM.rowLen (m : SM) (i : Nat) : Nat :=
  (m.e.get_row_range_j_end_plus_1 (i : Int) m.dim m.offset - m.e.get_row_range_j_start (i : Int) m.dim m.offset).toNat

/-- the positions a statement writes, in the order of the traversal: row by row, the columns `get_row_range`
    enumerates (by `row_range_spec` exactly the canonical positions of the row, ascending) -/
def SM.canonPositions (m : SM) : List (Int × Int) :=
  (List.range m.dim.toNat).flatMap (fun (i : Nat) =>
    (List.range (m.rowLen i)).map (fun (t : Nat) =>
      ((i : Int), m.e.get_row_range_j_start (i : Int) m.dim m.offset + (t : Int))))

/-- address (= gradient index relative to the Storage object) of a position -/
def SM.addr (m : SM) (p : Int × Int) : Int := m.base + m.e.index p.1 p.2 m.offset

theorem SM.mem_canonPositions (m : SM) (ha : m.Adm) (p : Int × Int) :
    p ∈ m.canonPositions ↔ m.Writes p.1 p.2 := by
  obtain ⟨pi, pj⟩ := p
  simp only [SM.canonPositions, SM.rowLen, List.mem_flatMap, List.mem_range, List.mem_map, Prod.mk.injEq]
  constructor
  · rintro ⟨i, hi, t, ht, rfl, rfl⟩
    have hi' : (i : Int) < m.dim := by omega
    have := ((row_range_spec m.e ha.wf m.dim m.offset i (by omega) hi').1
      (m.e.get_row_range_j_start (i : Int) m.dim m.offset + t)).1 ⟨by omega, by omega⟩
    exact ⟨by omega, hi', this.1, this.2.1, this.2.2⟩
  · rintro ⟨hi0, hi, hj0, hj, hc⟩
    obtain ⟨i, rfl⟩ : ∃ i : Nat, pi = i := ⟨pi.toNat, by omega⟩
    have := ((row_range_spec m.e ha.wf m.dim m.offset i hi0 hi).1 pj).2 ⟨hj0, hj, hc⟩
    exact ⟨i, by omega, (pj - m.e.get_row_range_j_start i m.dim m.offset).toNat, by omega, rfl, by omega⟩

theorem SM.canonPositions_nodup (m : SM) : m.canonPositions.Nodup := by
  simp only [SM.canonPositions]
  rw [List.nodup_flatMap]
  constructor
  · intro i _
    apply List.Nodup.map_on _ List.nodup_range
    intro a _ b _ h
    simp only [Prod.mk.injEq, true_and] at h
    omega
  · apply List.Pairwise.imp _ (List.nodup_range (n := m.dim.toNat))
    intro a b hab
    simp only [Function.onFun, List.disjoint_left, List.mem_map]
    rintro p ⟨t, _, rfl⟩ ⟨t', _, h⟩
    simp only [Prod.mk.injEq] at h
    exact hab (by omega)

theorem SM.addr_inj_on (m : SM) (ha : m.Adm) (p q : Int × Int) (hp : p ∈ m.canonPositions) (hq : q ∈ m.canonPositions)
    (h : m.addr p = m.addr q) : p = q := by
  have := m.writes_inj ha ((m.mem_canonPositions ha p).1 hp) ((m.mem_canonPositions ha q).1 hq)
    (Int.add_left_cancel h)
  exact Prod.ext this.1 this.2

theorem SM.canonAddrs_nodup (m : SM) (ha : m.Adm) : (m.canonPositions.map m.addr).Nodup :=
  List.Nodup.map_on (fun p hp q hq h => m.addr_inj_on ha p q hp hq h) m.canonPositions_nodup

theorem SM.row_addr (m : SM) (ha : m.Adm) (i : Nat) (hi : (i : Int) < m.dim) (t : Nat) (ht : t < m.rowLen i) :
    m.base + m.e.get_row_range_index_start (i : Int) m.dim m.offset
        + (t : Int) * m.e.get_row_range_index_stride (i : Int) m.dim m.offset
      = m.addr ((i : Int), m.e.get_row_range_j_start (i : Int) m.dim m.offset + (t : Int)) := by
  have hx := (row_range_spec m.e ha.wf m.dim m.offset i (by omega) hi).2
    (m.e.get_row_range_j_start (i : Int) m.dim m.offset + t) (by omega) (by simp only [SM.rowLen] at ht; omega)
  simp only [SM.addr]
  rw [← hx]; ring

theorem SM.assignRow_eq (m : SM) : ∀ (n : Nat) (f : Nat → Int) (idx stride : Int) (d : Raw),
    m.assignRow ((List.range n).map f) idx stride d
      = storeSeq (fun t : Nat => m.base + idx + (t : Int) * stride) (fun _ t => f t) (List.range n) d := by
  intro n
  induction n with
  | zero => intro _ _ _ _; rfl
  | succ n ih =>
    intro f idx stride d
    have h0 : m.base + idx + ((0 : Nat) : Int) * stride = m.base + idx := by rw [Nat.cast_zero, zero_mul, add_zero]
    rw [map_range_succ, SM.assignRow, ih, List.range_succ_eq_map, storeSeq_cons, storeSeq_map, h0]
    exact storeSeq_congr _ (fun t _ => by rw [Nat.cast_succ]; ring) (fun _ _ _ => rfl)

theorem SM.assignRowOf_eq (m : SM) (ha : m.Adm) (rhs : RExpr) (hr : rhs.AllAdm) (d : Raw) (i : Nat)
    (hi : (i : Int) < m.dim) :
    m.assignRowOf rhs d i = storeSeq m.addr (fun _ p => rhs.val p.1 p.2)
      ((List.range (m.rowLen i)).map (fun (t : Nat) =>
        ((i : Int), m.e.get_row_range_j_start (i : Int) m.dim m.offset + (t : Int)))) d := by
  rw [storeSeq_map, SM.assignRowOf, rhs.row_spec hr, m.assignRow_eq]
  exact storeSeq_congr _ (fun t ht => m.row_addr ha i hi t (List.mem_range.1 ht)) (fun _ _ _ => rfl)

theorem SM.rows_fold (m : SM) (ha : m.Adm) {σ : Type} (step : σ → Int × Int → σ) (F : σ → Nat → σ)
    (hF : ∀ (s : σ) (i : Nat), (i : Int) < m.dim → F s i = ((List.range (m.rowLen i)).map (fun (t : Nat) =>
      ((i : Int), m.e.get_row_range_j_start (i : Int) m.dim m.offset + (t : Int)))).foldl step s) (s : σ) :
    (List.range m.dim.toNat).foldl F s = m.canonPositions.foldl step s := by
  rw [SM.canonPositions, List.foldl_flatMap]
  refine List.foldl_ext _ _ _ (fun s i hi => hF s i ?_)
  have := List.mem_range.1 hi
  have := ha.dim_pos
  omega

/-- `M = rhs` without aliasing: `assign_expression_<false,false>`, and `assign_inactive_scalar` with a constant
    right-hand side -/
theorem SM.assign_eq (m : SM) (ha : m.Adm) (rhs : RExpr) (hr : rhs.AllAdm) (d : Raw) :
    m.assign rhs d = storeSeq m.addr (fun _ p => rhs.val p.1 p.2) m.canonPositions d :=
  m.rows_fold ha _ _ (fun d i hi => m.assignRowOf_eq ha rhs hr d i hi) d

/-- what a statement with target `m` does: `d'` is `d` with `f i j` stored at every written position, nothing else changed -/
def SM.Filled (m : SM) (f : Int → Int → Int) (d d' : Raw) : Prop :=
  (∀ i j : Int, m.Writes i j → d' (m.addr (i, j)) = f i j) ∧
  (∀ k : Int, (∀ i j : Int, m.Writes i j → k ≠ m.addr (i, j)) → d' k = d k)

theorem SM.Filled.curried {m : SM} {f : Int → Int → Int} {d d' : Raw} (h : m.Filled f d d') :
    (∀ i j : Int, 0 ≤ i → i < m.dim → 0 ≤ j → j < m.dim → Canonical m.e i j →
        d' (m.base + m.e.index i j m.offset) = f i j) ∧
    (∀ k : Int, (∀ i j : Int, 0 ≤ i → i < m.dim → 0 ≤ j → j < m.dim → Canonical m.e i j →
        k ≠ m.base + m.e.index i j m.offset) → d' k = d k) :=
  ⟨fun i j hi0 hi hj0 hj hc => h.1 i j ⟨hi0, hi, hj0, hj, hc⟩,
   fun k hk => h.2 k (fun i j ⟨hi0, hi, hj0, hj, hc⟩ => hk i j hi0 hi hj0 hj hc)⟩

theorem SM.Filled.congr {m : SM} {f g : Int → Int → Int} {d d' : Raw} (h : m.Filled f d d')
    (hfg : ∀ i j : Int, m.Writes i j → f i j = g i j) : m.Filled g d d' :=
  ⟨fun i j hw => (h.1 i j hw).trans (hfg i j hw), h.2⟩

theorem SM.Filled.unique {m : SM} {f : Int → Int → Int} {d d₁ d₂ : Raw} (h₁ : m.Filled f d d₁) (h₂ : m.Filled f d d₂)
    (k : Int) : d₁ k = d₂ k := by
  by_cases hk : ∃ i j : Int, m.Writes i j ∧ k = m.addr (i, j)
  · obtain ⟨i, j, hw, rfl⟩ := hk
    rw [h₁.1 i j hw, h₂.1 i j hw]
  · have hmiss : ∀ i j : Int, m.Writes i j → k ≠ m.addr (i, j) := fun i j hw heq => hk ⟨i, j, hw, heq⟩
    rw [h₁.2 k hmiss, h₂.2 k hmiss]

theorem SM.Filled.view {m : SM} {f : Int → Int → Int} {d d' : Raw} (h : m.Filled f d d') (i j : Int)
    (hi0 : 0 ≤ i) (hi : i < m.dim) (hj0 : 0 ≤ j) (hj : j < m.dim) :
    (Canonical m.e i j → m.get d' i j = f i j) ∧
    (isSymm m.e = true → Canonical m.e j i → m.get d' i j = f j i) ∧
    (¬ InPattern m.e i j → m.get d' i j = 0) := by
  refine ⟨fun hc => ?_, fun hs hc => ?_, fun hn => (m.get_eq _ i j).2 hn⟩
  · rw [(m.get_eq _ i j).1 (canonical_pattern _ _ _ hc)]
    exact h.1 i j ⟨hi0, hi, hj0, hj, hc⟩
  · rw [(m.get_eq _ i j).1 (symm_all_pattern _ hs i j), index_mirror m.e hs]
    exact h.1 j i ⟨hj0, hj, hi0, hi, hc⟩

theorem SM.assign_raw (m : SM) (ha : m.Adm) (rhs : RExpr) (hr : rhs.AllAdm) (d : Raw) :
    m.Filled rhs.val d (m.assign rhs d) := by
  rw [m.assign_eq ha rhs hr]
  constructor
  · intro i j hw
    exact storeSeq_hit m.addr (fun p => rhs.val p.1 p.2) _ d (m.canonAddrs_nodup ha) (i, j)
      ((m.mem_canonPositions ha (i, j)).2 hw)
  · intro k hk
    exact storeSeq_miss _ _ k _ d (fun p hp h => hk p.1 p.2 ((m.mem_canonPositions ha p).1 hp) h.symm)

def SM.Stores (m : SM) (k : Int) : Prop :=
  ∃ i j : Int, 0 ≤ i ∧ i < m.dim ∧ 0 ≤ j ∧ j < m.dim ∧ InPattern m.e i j ∧ k = m.base + m.e.index i j m.offset

def AExpr.AllAdm : AExpr → Prop
  | .sm m _ => m.Adm
  | .scale a _ => a.AllAdm
  | .add a b => a.AllAdm ∧ b.AllAdm
  | .dense _ _ _ => True
  | .noalias a => a.AllAdm
  | .bin _ a b => a.AllAdm ∧ b.AllAdm
  | .binc _ a _ => a.AllAdm

/-- every special-matrix leaf has dimension `n` (otherwise `operator=` throws `size_mismatch`) -/
def AExpr.DimIs : AExpr → Int → Prop
  | .sm m _, n => m.dim = n
  | .scale a _, n => a.DimIs n
  | .add a b, n => a.DimIs n ∧ b.DimIs n
  | .dense _ _ _, _ => True
  | .noalias a, n => a.DimIs n
  | .bin _ a b, n => a.DimIs n ∧ b.DimIs n
  | .binc _ a _, n => a.DimIs n

/-- the expression contains no `noalias(...)` wrapper (a right-hand side as the user writes it; the compound
    operators add the one wrapper around `*this` themselves) -/
def AExpr.Plain : AExpr → Prop
  | .sm _ _ => True
  | .scale a _ => a.Plain
  | .add a b => a.Plain ∧ b.Plain
  | .dense _ _ _ => True
  | .noalias _ => False
  | .bin _ a b => a.Plain ∧ b.Plain
  | .binc _ a _ => a.Plain

def AExpr.Stores : AExpr → Int → Prop
  | .sm m _, k => m.Stores k
  | .scale a _, k => a.Stores k
  | .add a b, k => a.Stores k ∨ b.Stores k
  | .dense _ _ _, _ => False
  | .noalias a, k => a.Stores k
  | .bin _ a b, k => a.Stores k ∨ b.Stores k
  | .binc _ a _, k => a.Stores k

def AExpr.InRange : AExpr → Int → Prop
  | .sm m _, k => m.dataBegin ≤ k ∧ k ≤ m.dataEnd
  | .scale a _, k => a.InRange k
  | .add a b, k => a.InRange k ∨ b.InRange k
  | .dense _ _ _, _ => False
  | .noalias a, k => a.InRange k
  | .bin _ a b, k => a.InRange k ∨ b.InRange k
  | .binc _ a _, k => a.InRange k

/-- evaluating at (i,j) reads element `k` (`Stores k`: some leaf keeps an in-range position at `k`) -/
def AExpr.Reads : AExpr → Int → Int → Int → Prop
  | .sm m _, i, j, k => InPattern m.e i j ∧ k = m.base + m.e.index i j m.offset
  | .scale a _, i, j, k => a.Reads i j k
  | .add a b, i, j, k => a.Reads i j k ∨ b.Reads i j k
  | .dense _ _ _, _, _, _ => False
  | .noalias a, i, j, k => a.Reads i j k
  | .bin _ a b, i, j, k => a.Reads i j k ∨ b.Reads i j k
  | .binc _ a _, i, j, k => a.Reads i j k

theorem SM.stores_in_range (m : SM) (ha : m.Adm) (k : Int) (h : m.Stores k) : m.dataBegin ≤ k ∧ k ≤ m.dataEnd := by
  obtain ⟨i, j, hi0, hi, hj0, hj, hp, rfl⟩ := h
  have := index_in_range m.e ha.wf m.dim m.offset i j ha.dim_pos ha.off hi0 hi hj0 hj
  simp only [SM.dataBegin, SM.dataEnd]
  omega

theorem AExpr.stores_in_range (r : AExpr) (hr : r.AllAdm) (k : Int) (h : r.Stores k) : r.InRange k := by
  induction r with
  | sm m l => exact m.stores_in_range hr k h
  | dense f i j => exact h
  | scale a c ih | noalias a ih | binc o a c ih => exact ih hr h
  | add a b iha ihb | bin o a b iha ihb => exact h.imp (iha hr.1) (ihb hr.2)

theorem AExpr.not_aliased_range (r : AExpr) (hp : r.Plain) (mem1 mem2 : Int) (h : r.isAliased mem1 mem2 = false) (k : Int)
    (hk : r.InRange k) : ¬ (mem1 ≤ k ∧ k ≤ mem2) := by
  induction r with
  | sm m l =>
    simp only [AExpr.isAliased, SM.isAliased, decide_eq_false_iff_not] at h
    simp only [AExpr.InRange] at hk
    omega
  | dense f i j => exact fun _ => hk
  | noalias a ih => exact hp.elim
  | scale a c ih | binc o a c ih => exact ih hp h hk
  | add a b iha ihb | bin o a b iha ihb =>
    simp only [AExpr.isAliased, Bool.or_eq_false_iff] at h
    exact hk.elim (iha hp.1 h.1) (ihb hp.2 h.2)

theorem AExpr.bind_allAdm (r : AExpr) (hr : r.AllAdm) (d : Raw) : (r.bind d).AllAdm := by
  induction r with
  | sm m l => exact hr
  | dense f i j => trivial
  | scale a c ih | noalias a ih | binc o a c ih => exact ih hr
  | add a b iha ihb | bin o a b iha ihb => exact ⟨iha hr.1, ihb hr.2⟩

/-- `next_value` after `set_location(i,j)` leaves the cursors where `set_location(i,j+1)` puts them -/
theorem AExpr.advance_setLocation (r : AExpr) (hr : r.AllAdm) (i j : Int) :
    (r.setLocation i j).advance = r.setLocation i (j + 1) := by
  induction r with
  | sm m l => simp only [AExpr.setLocation, AExpr.advance, m.advance_setLocation hr]
  | dense f i' j' => rfl
  | scale a c ih | noalias a ih | binc o a c ih => simp only [AExpr.setLocation, AExpr.advance, ih hr]
  | add a b iha ihb | bin o a b iha ihb => simp only [AExpr.setLocation, AExpr.advance, iha hr.1, ihb hr.2]

theorem AExpr.value_setLocation (r : AExpr) (hr : r.AllAdm) (d : Raw) (i j : Int) :
    (r.setLocation i j).value d = (r.bind d).val i j := by
  induction r with
  | sm m l => simp only [AExpr.setLocation, AExpr.value, AExpr.bind, RExpr.val, m.valueAt_setLocation hr]
  | dense f i' j' => rfl
  | noalias a ih => simp only [AExpr.setLocation, AExpr.value, AExpr.bind, ih hr]
  | scale a c ih | binc o a c ih => simp only [AExpr.setLocation, AExpr.value, AExpr.bind, RExpr.val, ih hr]
  | add a b iha ihb | bin o a b iha ihb =>
    simp only [AExpr.setLocation, AExpr.value, AExpr.bind, RExpr.val, iha hr.1, ihb hr.2]

theorem AExpr.val_congr (r : AExpr) (d d' : Raw) (i j : Int) (h : ∀ k, r.Reads i j k → d k = d' k) :
    (r.bind d).val i j = (r.bind d').val i j := by
  induction r with
  | sm m l =>
    simp only [AExpr.bind, RExpr.val]
    by_cases hp : InPattern m.e i j
    · rw [(m.get_eq d i j).1 hp, (m.get_eq d' i j).1 hp]
      exact h _ ⟨hp, rfl⟩
    · rw [(m.get_eq d i j).2 hp, (m.get_eq d' i j).2 hp]
  | dense f i' j' => rfl
  | noalias a ih => exact ih h
  | scale a c ih | binc o a c ih =>
    simp only [AExpr.bind, RExpr.val]
    rw [ih h]
  | add a b iha ihb | bin o a b iha ihb =>
    simp only [AExpr.bind, RExpr.val]
    rw [iha (fun k hk => h k (Or.inl hk)), ihb (fun k hk => h k (Or.inr hk))]

theorem AExpr.reads_in_range (r : AExpr) (hr : r.AllAdm) (n : Int) (hn : r.DimIs n) (i j k : Int)
    (hi0 : 0 ≤ i) (hi : i < n) (hj0 : 0 ≤ j) (hj : j < n) (h : r.Reads i j k) : r.InRange k := by
  induction r with
  | sm m l =>
    simp only [AExpr.DimIs] at hn
    subst hn
    exact m.stores_in_range hr k ⟨i, j, hi0, hi, hj0, hj, h.1, h.2⟩
  | dense f i' j' => exact h
  | scale a c ih | noalias a ih | binc o a c ih => exact ih hr hn h
  | add a b iha ihb | bin o a b iha ihb => exact h.imp (iha hr.1 hn.1) (ihb hr.2 hn.2)

theorem SM.assignRowIP_eq (m : SM) (rhs : AExpr) (hr : rhs.AllAdm) (i : Int) : ∀ (n : Nat) (j idx stride : Int) (d : Raw),
    m.assignRowIP n (rhs.setLocation i j) idx stride d
      = storeSeq (fun t : Nat => m.base + idx + (t : Int) * stride) (fun d t => (rhs.bind d).val i (j + (t : Int)))
          (List.range n) d := by
  intro n
  induction n with
  | zero => intro _ _ _ _; rfl
  | succ n ih =>
    intro j idx stride d
    have h0 : m.base + idx + ((0 : Nat) : Int) * stride = m.base + idx := by rw [Nat.cast_zero, zero_mul, add_zero]
    have hj : j + ((0 : Nat) : Int) = j := by rw [Nat.cast_zero, add_zero]
    rw [SM.assignRowIP, rhs.advance_setLocation hr, rhs.value_setLocation hr, ih, List.range_succ_eq_map, storeSeq_cons,
      storeSeq_map, h0, hj]
    exact storeSeq_congr _ (fun t _ => by rw [Nat.cast_succ]; ring)
      (fun d t _ => by rw [Nat.cast_succ, add_assoc, add_comm 1])

theorem SM.assignRowOfIP_eq (m : SM) (ha : m.Adm) (rhs : AExpr) (hr : rhs.AllAdm) (d : Raw) (i : Nat)
    (hi : (i : Int) < m.dim) :
    m.assignRowOfIP rhs d i = storeSeq m.addr (fun d p => (rhs.bind d).val p.1 p.2)
      ((List.range (m.rowLen i)).map (fun (t : Nat) =>
        ((i : Int), m.e.get_row_range_j_start (i : Int) m.dim m.offset + (t : Int)))) d := by
  rw [storeSeq_map, SM.assignRowOfIP, m.assignRowIP_eq rhs hr]
  exact storeSeq_congr _ (fun t ht => m.row_addr ha i hi t (List.mem_range.1 ht)) (fun _ _ _ => rfl)

theorem SM.assignInPlace_stores (m : SM) (ha : m.Adm) (rhs : AExpr) (hr : rhs.AllAdm) (d : Raw) :
    m.assignInPlace rhs d = storeSeq m.addr (fun d p => (rhs.bind d).val p.1 p.2) m.canonPositions d :=
  m.rows_fold ha _ _ (fun d i hi => m.assignRowOfIP_eq ha rhs hr d i hi) d

/-- the stores of a statement never hit what a DIFFERENT position of the traversal reads -/
def SM.SafeFor (m : SM) (rhs : AExpr) : Prop :=
  ∀ i j i' j' : Int, m.Writes i j → m.Writes i' j' → ¬ (i = i' ∧ j = j') →
    ¬ rhs.Reads i' j' (m.base + m.e.index i j m.offset)

/-- in place = from a snapshot taken before the statement, if no store hits what a different position reads -/
theorem SM.assignInPlace_eq (m : SM) (ha : m.Adm) (rhs : AExpr) (hr : rhs.AllAdm) (d : Raw) (hsafe : m.SafeFor rhs) :
    m.assignInPlace rhs d = m.assign (rhs.bind d) d := by
  rw [m.assignInPlace_stores ha rhs hr, m.assign_eq ha _ (rhs.bind_allAdm hr d)]
  refine storeSeq_snapshot m.addr _ m.canonPositions d (fun p hp d' hd' => ?_) _ d m.canonPositions_nodup
    (fun _ h => h) (fun _ _ _ _ => rfl)
  refine rhs.val_congr d' d p.1 p.2 (fun k hk => hd' k (fun q hq hne heq => ?_))
  subst heq
  exact hsafe q.1 q.2 p.1 p.2 ((m.mem_canonPositions ha q).1 hq) ((m.mem_canonPositions ha p).1 hp)
    (fun h => hne (Prod.ext h.1 h.2)) hk

theorem SM.packed_adm (e : Engine) (he : WF e) (n : Int) (hn : 1 ≤ n) : (SM.packed e n).Adm :=
  ⟨he, hn, le_refl _⟩

/-- `operator=(const Expression&)` for ANY right-hand side, with or without `noalias` wrappers: safe whenever the
    alias test answers false ⇒ "evaluate the right-hand side over the old storage, then store" -/
theorem SM.assignExpr_gen (m : SM) (ha : m.Adm) (rhs : AExpr) (hr : rhs.AllAdm) (d : Raw)
    (hsafe : rhs.isAliased m.dataBegin m.dataEnd = false → m.SafeFor rhs) :
    m.Filled (rhs.bind d).val d (m.assignExpr rhs d) := by
  by_cases hal : rhs.isAliased m.dataBegin m.dataEnd = true
  · -- temporary copy in fresh packed storage, then assignment from the copy, which holds the right-hand side's
    -- values at the positions that are read back
    simp only [SM.assignExpr, if_pos hal]
    have hc : (SM.packed m.e m.dim).Adm := SM.packed_adm m.e ha.wf m.dim ha.dim_pos
    have hcopy := (SM.packed m.e m.dim).assign_raw hc (rhs.bind d) (rhs.bind_allAdm hr d) ⟨fun _ => 0⟩
    refine (m.assign_raw ha (.sm (SM.packed m.e m.dim) _) hc d).congr (fun i j ⟨hi0, hi, hj0, hj, hcan⟩ => ?_)
    exact ((hcopy.view i j hi0 hi hj0 hj).1 hcan)
  · have hal' : rhs.isAliased m.dataBegin m.dataEnd = false := by simpa using hal
    simp only [SM.assignExpr, hal', Bool.false_eq_true, if_false]
    rw [m.assignInPlace_eq ha rhs hr d (hsafe hal')]
    exact m.assign_raw ha (rhs.bind d) (rhs.bind_allAdm hr d) d

theorem SM.safeFor_of_not_aliased (m : SM) (ha : m.Adm) (rhs : AExpr) (hr : rhs.AllAdm) (hp : rhs.Plain)
    (hN : rhs.DimIs m.dim) (hal : rhs.isAliased m.dataBegin m.dataEnd = false) : m.SafeFor rhs := by
  intro i j i' j' ⟨hi0, hi, hj0, hj, hc⟩ ⟨hi0', hi', hj0', hj', _⟩ _ hread
  have hin := rhs.reads_in_range hr m.dim hN i' j' _ hi0' hi' hj0' hj' hread
  exact rhs.not_aliased_range hp _ _ hal _ hin
    (m.stores_in_range ha _ ⟨i, j, hi0, hi, hj0, hj, canonical_pattern _ _ _ hc, rfl⟩)

theorem SM.assignExpr_spec (m : SM) (ha : m.Adm) (rhs : AExpr) (hr : rhs.AllAdm) (hp : rhs.Plain)
    (hN : rhs.DimIs m.dim) (d : Raw) : m.Filled (rhs.bind d).val d (m.assignExpr rhs d) :=
  m.assignExpr_gen ha rhs hr d (m.safeFor_of_not_aliased ha rhs hr hp hN)

/-- `noalias(*this)`: the wrapped target is read at (i,j) only in the raw element that is stored at (i,j) -/
theorem SM.safeFor_self (m : SM) (ha : m.Adm) : m.SafeFor (.noalias (.leaf m)) := by
  intro i j i' j' h h' hne hread
  simp only [AExpr.leaf, AExpr.Reads] at hread
  exact hne (m.writes_inj ha h h' (by omega))

theorem SM.SafeFor.bin {m : SM} {a b : AExpr} (ha : m.SafeFor a) (hb : m.SafeFor b) (o : BinOp) : m.SafeFor (.bin o a b) :=
  fun i j i' j' hw hw' hne hread => hread.elim (ha i j i' j' hw hw' hne) (hb i j i' j' hw hw' hne)

theorem SM.SafeFor.binc {m : SM} {a : AExpr} (h : m.SafeFor a) (o : BinOp) (c : Int) : m.SafeFor (.binc o a c) :=
  fun i j i' j' hw hw' hne (hread : a.Reads i' j' _) => h i j i' j' hw hw' hne hread

/-- the compound operators `M OP= rhs`, i.e. `*this = noalias(*this) OP rhs` -/
theorem SM.compound_spec (m : SM) (ha : m.Adm) (o : BinOp) (rhs : AExpr) (hr : rhs.AllAdm) (hp : rhs.Plain)
    (hN : rhs.DimIs m.dim) (d : Raw) :
    m.Filled (fun i j => o.apply (d (m.base + m.e.index i j m.offset)) ((rhs.bind d).val i j)) d (m.compound o rhs d) := by
  have hall : (AExpr.bin o (.noalias (.leaf m)) rhs).AllAdm := ⟨ha, hr⟩
  refine (m.assignExpr_gen ha (.bin o (.noalias (.leaf m)) rhs) hall d (fun hal => ?_)).congr
    (fun i j ⟨_, _, _, _, hc⟩ => ?_)
  · simp only [AExpr.isAliased, Bool.false_or] at hal
    exact (m.safeFor_self ha).bin (m.safeFor_of_not_aliased ha rhs hr hp hN hal) o
  · simp only [AExpr.bind, AExpr.leaf, RExpr.val]
    rw [(m.get_eq d i j).1 (canonical_pattern _ _ _ hc)]

/-- the compound operators with a scalar on the right, `M OP= c` -/
theorem SM.compoundScalar_spec (m : SM) (ha : m.Adm) (o : BinOp) (c : Int) (d : Raw) :
    m.Filled (fun i j => o.apply (d (m.base + m.e.index i j m.offset)) c) d (m.compoundScalar o c d) := by
  have hall : (AExpr.binc o (.noalias (.leaf m)) c).AllAdm := ha
  refine (m.assignExpr_gen ha (.binc o (.noalias (.leaf m)) c) hall d (fun _ => (m.safeFor_self ha).binc o c)).congr
    (fun i j ⟨_, _, _, _, hc⟩ => ?_)
  simp only [AExpr.bind, AExpr.leaf, RExpr.val]
  rw [(m.get_eq d i j).1 (canonical_pattern _ _ _ hc)]

end Adept.Special
