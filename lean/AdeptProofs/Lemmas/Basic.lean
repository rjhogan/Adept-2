/-!
Facts about lists and natural-number arithmetic that several parts of the development share.  None of them mentions
the model.
-/
namespace Adept

theorem foldl_congr_mem {α β : Type} {l : List α} {f g : β → α → β} (h : ∀ a ∈ l, ∀ t, f t a = g t a) (t : β) :
    l.foldl f t = l.foldl g t :=
  List.foldl_rel (r := fun x y => x = y) rfl fun a ha c _ e => e ▸ h a ha c

theorem flatMap_congr_mem {α β : Type} {l : List α} {f g : α → List β} (h : ∀ a ∈ l, f a = g a) :
    l.flatMap f = l.flatMap g := by
  simp only [List.flatMap_def, List.map_congr_left h]

/-- the list around position `i` -/
theorem eq_take_cons_drop {α} {l : List α} {i : Nat} {a : α} (h : l[i]? = some a) :
    l = l.take i ++ a :: l.drop (i + 1) := by
  obtain ⟨hlt, rfl⟩ := List.getElem?_eq_some_iff.mp h
  simp

/-! ### two digits in mixed radix: position `a + b * r` with `a < r`

Element `(a, b)` of a column-major array with leading dimension `r`, or `(b, a)` of a row-major one with rows of `r`. -/

theorem add_mul_div_of_lt {r a b : Nat} (ha : a < r) : (a + b * r) / r = b := by
  rw [Nat.add_mul_div_right _ _ (Nat.zero_lt_of_lt ha), Nat.div_eq_of_lt ha, Nat.zero_add]

theorem add_mul_mod_of_lt {r a b : Nat} (ha : a < r) : (a + b * r) % r = a := by
  rw [Nat.add_mul_mod_self_right, Nat.mod_eq_of_lt ha]

theorem add_mul_inj {r a b a' b' : Nat} (ha : a < r) (ha' : a' < r) (h : a + b * r = a' + b' * r) : a = a' ∧ b = b' :=
  ⟨by rw [← add_mul_mod_of_lt ha (b := b), h, add_mul_mod_of_lt ha'],
    by rw [← add_mul_div_of_lt ha (b := b), h, add_mul_div_of_lt ha']⟩

theorem add_mul_lt_mul {r s a b : Nat} (ha : a < r) (hb : b < s) : a + b * r < r * s :=
  calc a + b * r < r + b * r := Nat.add_lt_add_right ha _
    _ = (b + 1) * r := by rw [Nat.succ_mul, Nat.add_comm]
    _ ≤ s * r := Nat.mul_le_mul_right r hb
    _ = r * s := Nat.mul_comm s r

/-! ### rounding to a multiple of `W` -/

/-- `x - x % W` is the largest multiple of `W` not above `x` -/
theorem floor_spec {W : Nat} (hW : 0 < W) (x : Nat) : W ∣ x - x % W ∧ x - x % W ≤ x ∧ x < x - x % W + W := by
  have h1 := Nat.mod_lt x hW
  have h2 := Nat.mod_le x W
  exact ⟨Nat.dvd_sub_mod x, Nat.sub_le _ _, by omega⟩

/-- `(n + W - 1) / W * W` is the least multiple of `W` not below `n` -/
theorem ceil_spec {W : Nat} (hW : 0 < W) (n : Nat) :
    W ∣ (n + W - 1) / W * W ∧ n ≤ (n + W - 1) / W * W ∧ (n + W - 1) / W * W < n + W := by
  obtain ⟨h1, h2, h3⟩ := floor_spec hW (n + W - 1)
  rw [Nat.div_mul_self_eq_mod_sub_self]
  generalize n + W - 1 - (n + W - 1) % W = m at h1 h2 h3
  exact ⟨h1, by omega, by omega⟩

end Adept
