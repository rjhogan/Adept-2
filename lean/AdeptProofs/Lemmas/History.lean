/-!
Erasing from a history the operations that failed without a trace changes neither the final state nor what the others show,
for any step function; `C11_usable_after` and `C11_arr_usable_after` are the two instances.
-/
namespace Adept.History

theorem usable_after {σ op β : Type} (step : σ → op → σ × β) (dropped : σ → op → Bool)
    (run runKept : σ → List op → σ × List β) (dropFailed : σ → List op → List op)
    (run_nil : ∀ s, run s [] = (s, []))
    (run_cons : ∀ s o os, run s (o :: os) = ((run (step s o).1 os).1, (step s o).2 :: (run (step s o).1 os).2))
    (kept_nil : ∀ s, runKept s [] = (s, []))
    (kept_cons : ∀ s o os, runKept s (o :: os) =
      if dropped s o then runKept (step s o).1 os
      else ((runKept (step s o).1 os).1, (step s o).2 :: (runKept (step s o).1 os).2))
    (drop_nil : ∀ s, dropFailed s [] = [])
    (drop_cons : ∀ s o os, dropFailed s (o :: os) =
      if dropped s o then dropFailed (step s o).1 os else o :: dropFailed (step s o).1 os)
    (hdrop : ∀ s o, dropped s o = true → (step s o).1 = s) (s : σ) (ops : List op) :
    run s (dropFailed s ops) = runKept s ops ∧ (runKept s ops).1 = (run s ops).1 := by
  induction ops generalizing s with
  | nil =>
    rw [drop_nil, run_nil, kept_nil]
    exact ⟨rfl, rfl⟩
  | cons o os ih =>
    rw [drop_cons, kept_cons, run_cons s o os]
    cases hd : dropped s o with
    | true =>
      -- a dropped operation returned the state it was given: the shortened history goes on from the same state
      rw [if_pos rfl, if_pos rfl]
      refine ⟨?_, (ih _).2⟩
      rw [hdrop s o hd]
      exact (ih s).1
    | false =>
      rw [if_neg Bool.false_ne_true, if_neg Bool.false_ne_true, run_cons, (ih _).1]
      exact ⟨rfl, (ih _).2⟩

end Adept.History
