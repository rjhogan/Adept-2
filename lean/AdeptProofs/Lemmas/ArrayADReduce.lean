import AdeptProofs.Lemmas.ArrayAD
/-!
Helper lemmas for the reduction part of C03: the statements recorded by `reduce_active` / `reduce_dimension`
(one accumulator statement for sum, the `t·dx + x·dt` form for product, overwriting statements for minval/maxval)
have the same tangent-linear map, and leave the same values, as the scalar accumulation loop.
-/
-- the file-wide instances are part of every statement below, whichever it uses
set_option linter.unusedSectionVars false
namespace Adept.ArrayAD
open Adept.Tape

variable {R : Type} [Field R] [DecidableEq R] [LT R] [DecidableLT R]

/-- the cell lies inside its allocation -/
def Mem.HasCell (m : Mem R) (c : Cell) : Prop :=
  ∃ x, m.sto? c.1 = some x ∧ 0 ≤ c.2 ∧ c.2.toNat < x.cells.length

theorem val_store_self (m : Mem R) (c : Cell) (v : R) (h : m.HasCell c) : (m.store c v).val c = v := by
  obtain ⟨x, hx, h0, hl⟩ := h
  unfold Mem.val
  rw [store_sto?, hx]
  have hn : ¬ c.2 < 0 := by omega
  simp [hn, hl]

theorem val_store_other (m : Mem R) (c c' : Cell) (v : R) (h : c'.1 ≠ c.1) : (m.store c v).val c' = m.val c' := by
  unfold Mem.val
  rw [store_sto?]
  cases m.sto? c'.1 with
  | none => rfl
  | some x => simp [h]

theorem hasCell_store (m : Mem R) (c : Cell) (v : R) (c' : Cell) (h : m.HasCell c') : (m.store c v).HasCell c' := by
  obtain ⟨x, hx, h0, hl⟩ := h
  unfold Mem.HasCell
  rw [store_sto?, hx]
  simp only [Option.map_some]
  refine ⟨_, rfl, h0, ?_⟩
  split <;> simp [hl]

theorem store_store (m : Mem R) (c : Cell) (v v' : R) : (m.store c v).store c v' = m.store c v' := by
  unfold Mem.store
  by_cases hn : c.2 < 0
  · simp [hn]
  · simp only [hn, if_false, List.map_map]
    congr 1
    funext p
    simp only [Function.comp]
    by_cases hp : p.1 = c.1
    · simp [hp]
    · simp [hp]

theorem eval_store_other (x : SExpr R) (m : Mem R) (c : Cell) (v : R) (h : ∀ c' ∈ x.cellsOf, c'.1 ≠ c.1) :
    x.eval (m.store c v) = x.eval m := by
  induction x with
  | cell c' => simp only [SExpr.eval]; exact val_store_other m c c' v (h c' (by simp [SExpr.cellsOf]))
  | const y => rfl
  | add a b iha ihb | sub a b iha ihb | mul a b iha ihb | div a b iha ihb | max a b iha ihb | min a b iha ihb =>
    simp only [SExpr.cellsOf, List.mem_append] at h
    simp only [SExpr.eval, iha (fun c' hc => h c' (Or.inl hc)), ihb (fun c' hc => h c' (Or.inr hc))]
  | neg a ih | noalias a ih | abs a ih =>
    simp only [SExpr.cellsOf] at h
    simp only [SExpr.eval, ih h]

theorem grad_store_other (x : SExpr R) (m : Mem R) (c : Cell) (v : R) (w : Option R)
    (h : ∀ c' ∈ x.cellsOf, c'.1 ≠ c.1) : x.grad (m.store c v) w = x.grad m w := by
  induction x generalizing w with
  | cell c' => simp only [SExpr.grad, store_isActive, store_gidx]
  | const y => rfl
  | add a b iha ihb | sub a b iha ihb | mul a b iha ihb | div a b iha ihb | max a b iha ihb | min a b iha ihb =>
    simp only [SExpr.cellsOf, List.mem_append] at h
    have ha := fun c' hc => h c' (Or.inl hc)
    have hb := fun c' hc => h c' (Or.inr hc)
    simp only [SExpr.grad, iha _ ha, ihb _ hb, eval_store_other a m c v ha, eval_store_other b m c v hb]
  | neg a ih | noalias a ih =>
    simp only [SExpr.cellsOf] at h
    simp only [SExpr.grad, ih _ h]
  | abs a ih =>
    simp only [SExpr.cellsOf] at h
    simp only [SExpr.grad, ih _ h, eval_store_other a m c v h]

/-- an element pushes no operation on a gradient index that none of its cells has -/
theorem grad_indices (x : SExpr R) (m : Mem R) (T : Nat) (w : Option R) (h : ∀ c' ∈ x.cellsOf, m.gidx c' ≠ T) :
    ∀ p ∈ x.grad m w, p.2 ≠ T := by
  induction x generalizing w with
  | cell c' =>
    intro p hp
    simp only [SExpr.grad] at hp
    split at hp
    · simp at hp; rw [hp]; exact h c' (by simp [SExpr.cellsOf])
    · simp at hp
  | const y => intro p hp; simp [SExpr.grad] at hp
  | add a b iha ihb | sub a b iha ihb | mul a b iha ihb | div a b iha ihb =>
    simp only [SExpr.cellsOf, List.mem_append] at h
    intro p hp
    simp only [SExpr.grad, List.mem_append] at hp
    cases hp with
    | inl hp => exact iha _ (fun c' hc => h c' (Or.inl hc)) p hp
    | inr hp => exact ihb _ (fun c' hc => h c' (Or.inr hc)) p hp
  -- max, min: the operations of one operand, chosen by `is_left`
  | max a b iha ihb | min a b iha ihb =>
    simp only [SExpr.cellsOf, List.mem_append] at h
    intro p hp
    simp only [SExpr.grad, List.mem_append] at hp
    cases hp with
    | inl hp =>
      split at hp
      · exact iha _ (fun c' hc => h c' (Or.inl hc)) p hp
      · exact absurd hp List.not_mem_nil
    | inr hp =>
      split at hp
      · exact absurd hp List.not_mem_nil
      · exact ihb _ (fun c' hc => h c' (Or.inr hc)) p hp
  | neg a ih | noalias a ih | abs a ih =>
    simp only [SExpr.cellsOf] at h
    intro p hp
    simp only [SExpr.grad] at hp
    exact ih _ h p hp

theorem elemStep_mem (s : St R) (c : Cell) (x : SExpr R) : (elemStep s c x).mem = s.mem.store c (x.eval s.mem) := rfl
theorem elemStep_tape (s : St R) (c : Cell) (x : SExpr R) :
    (elemStep s c x).tape = s.tape ++ [⟨s.mem.gidx c, x.grad s.mem none⟩] := rfl

/-- what `reduce_active` (or one strip of `reduce_dimension`) records and leaves in `tot` over the elements `xs` -/
def recordCore (f : RFun) (tot : Cell) (xs : List (SExpr R)) (n : Nat) (s : St R) : St R :=
  let s0 : St R := { s with tape := s.tape ++ [⟨s.mem.gidx tot, []⟩] }
  let a0 : Acc R := ⟨s0, firstValue f, (f == .minval || f == .maxval), []⟩
  let a1 := finishActive f tot n (xs.foldl (accumulate f tot) a0)
  { a1.st with mem := a1.st.mem.store tot a1.val }

/-- `accumulate` stores nothing -/
theorem acc_fold_mem (f : RFun) (tot : Cell) (xs : List (SExpr R)) (a : Acc R) :
    (xs.foldl (accumulate f tot) a).st.mem = a.st.mem := by
  induction xs generalizing a with
  | nil => rfl
  | cons x xs ih =>
    rw [List.foldl_cons, ih]
    cases f with
    | sum | mean | product => rfl
    | minval | maxval =>
      simp only [accumulate]
      split <;> rfl

/-- the accumulator is a live active cell whose allocation and gradient index no element uses -/
structure Cond (m : Mem R) (tot : Cell) (xs : List (SExpr R)) : Prop where
  has : m.HasCell tot
  act : m.isActive tot.1 = true
  sid : ∀ x ∈ xs, ∀ c ∈ x.cellsOf, c.1 ≠ tot.1
  gix : ∀ x ∈ xs, ∀ c ∈ x.cellsOf, m.gidx c ≠ m.gidx tot

/-- in `m.store tot v` every element reads and records as in `m`, and `tot` holds `v` under its old gradient index -/
theorem Cond.read {m : Mem R} {tot : Cell} {xs : List (SExpr R)} (hc : Cond m tot xs) {x : SExpr R} (hx : x ∈ xs)
    {l : Mem R} {v : R} (hl : l = m.store tot v) :
    x.eval l = x.eval m ∧ (∀ w, x.grad l w = x.grad m w) ∧ l.val tot = v ∧ l.gidx tot = m.gidx tot ∧
      l.isActive tot.1 = true := by
  subst hl
  exact ⟨eval_store_other x m tot v (hc.sid x hx), fun w => grad_store_other x m tot v w (hc.sid x hx),
    val_store_self m tot v hc.has, store_gidx m tot v tot, (store_isActive m tot v tot.1).trans hc.act⟩

/-- same values, and tapes with the same tangent-linear map on every gradient vector that has slot `T` -/
def Eqv (T : Nat) (a b : St R) : Prop :=
  a.mem = b.mem ∧ ∀ g : Vec R, T < g.length → fwd a.tape g = fwd b.tape g

theorem cellTot_grad (m : Mem R) (tot : Cell) (w : Option R) (h : m.isActive tot.1 = true) :
    (SExpr.cell tot : SExpr R).grad m w = [(w.getD 1, m.gidx tot)] := by
  simp [SExpr.grad, h]

theorem Eqv.refl (T : Nat) (s : St R) : Eqv T s s := ⟨rfl, fun _ _ => rfl⟩

theorem Eqv.elemStep {T : Nat} {a b : St R} (h : Eqv T a b) (c : Cell) (x : SExpr R) :
    Eqv T (elemStep a c x) (elemStep b c x) := by
  obtain ⟨h1, h2⟩ := h
  refine ⟨by rw [elemStep_mem, elemStep_mem, h1], ?_⟩
  intro g hg
  rw [elemStep_tape, elemStep_tape, fwd_append, fwd_append, h2 g hg, h1]

/-- a run of statements `d T = d T + ops` is one accumulation into slot `T` -/
theorem fwd_accumulate (T : Nat) (opss : List (List (R × Nat))) (hT : ∀ ops ∈ opss, ∀ p ∈ ops, p.2 ≠ T)
    (h : Vec R) (hh : T < h.length) :
    fwd (opss.map fun ops => ⟨T, (1, T) :: ops⟩) h = h.set T (rd h T + rhsVal opss.flatten h) := by
  induction opss generalizing h with
  | nil => simp [fwd_nil, rhsVal_nil, LF.set_rd_self h T]
  | cons ops rest ih =>
    have h2 : ∀ p ∈ rest.flatten, p.2 ≠ T := fun p hp => by
      obtain ⟨o, ho, hpo⟩ := List.mem_flatten.mp hp
      exact hT o (List.mem_cons_of_mem _ ho) p hpo
    rw [List.map_cons, fwd_cons]
    simp only [fwdStep]
    rw [ih (fun o ho => hT o (List.mem_cons_of_mem _ ho)) _ (by simpa using hh), rhsVal_cons, rd_set_self _ _ _ hh,
      rhsVal_set_other _ _ _ _ h2, List.set_set, List.flatten_cons, rhsVal_append]
    congr 1
    ring

theorem sum_accumulate (tot : Cell) (xs : List (SExpr R)) (a : Acc R) :
    xs.foldl (accumulate .sum tot) a =
      { a with val := xs.foldl (fun v x => v + x.eval a.st.mem) a.val,
               pend := a.pend ++ (xs.map fun x => x.grad a.st.mem none).flatten } := by
  induction xs generalizing a with
  | nil => simp
  | cons x xs ih =>
    rw [List.foldl_cons, ih]
    simp [accumulate, List.append_assoc]

theorem sum_loop {m : Mem R} {tot : Cell} {xs : List (SExpr R)} (hc : Cond m tot xs) (ys : List (SExpr R))
    (hys : ∀ x ∈ ys, x ∈ xs) (v : R) (tp : List (Stmt R)) :
    ys.foldl (fun l x => elemStep l tot (.add (.cell tot) x)) ⟨m.store tot v, tp⟩ =
      ⟨m.store tot (ys.foldl (fun v x => v + x.eval m) v),
        tp ++ ys.map fun x => ⟨m.gidx tot, (1, m.gidx tot) :: x.grad m none⟩⟩ := by
  induction ys generalizing v tp with
  | nil => simp
  | cons x ys ih =>
    obtain ⟨hex, hgx, hvt, hgi, hact⟩ := hc.read (v := v) (hys x (List.mem_cons_self ..)) rfl
    have hstep : elemStep ⟨m.store tot v, tp⟩ tot (.add (.cell tot) x) =
        ⟨m.store tot (v + x.eval m), tp ++ [⟨m.gidx tot, (1, m.gidx tot) :: x.grad m none⟩]⟩ := by
      simp only [elemStep, SExpr.eval, SExpr.grad, hex, hgx, hvt, hgi, hact, store_store, if_true, Option.getD_none,
        List.cons_append, List.nil_append]
    rw [List.foldl_cons, hstep, ih (fun y hy => hys y (List.mem_cons_of_mem _ hy)), List.foldl_cons, List.map_cons,
      List.append_assoc]
    rfl

/-- sum: one statement carrying every element's operations ≃ `tot = 0; tot = tot + x …` -/
theorem sum_core (tot : Cell) (xs : List (SExpr R)) (n : Nat) (sr sl : St R) (hc : Cond sr.mem tot xs)
    (he : Eqv (sr.mem.gidx tot) sr sl) :
    Eqv (sr.mem.gidx tot) (recordCore .sum tot xs n sr) (runProg sl (loopStmts .sum tot xs n)) := by
  obtain ⟨hm, hf⟩ := he
  have hloop : runProg sl (loopStmts .sum tot xs n) =
      xs.foldl (fun l x => elemStep l tot (.add (.cell tot) x))
        ⟨sr.mem.store tot 0, sl.tape ++ [⟨sr.mem.gidx tot, []⟩]⟩ := by
    simp only [runProg, loopStmts, List.foldl_cons, List.foldl_map, hm]
    rfl
  have hrec : recordCore .sum tot xs n sr =
      ⟨sr.mem.store tot (xs.foldl (fun v x => v + x.eval sr.mem) 0),
        sr.tape ++ [⟨sr.mem.gidx tot, []⟩, ⟨sr.mem.gidx tot, (xs.map fun x => x.grad sr.mem none).flatten⟩]⟩ := by
    simp [recordCore, finishActive, firstValue, sum_accumulate]
  have hops : ∀ ops ∈ xs.map (fun x => x.grad sr.mem none), ∀ p ∈ ops, p.2 ≠ sr.mem.gidx tot := by
    intro ops ho
    obtain ⟨x, hx, rfl⟩ := List.mem_map.mp ho
    exact grad_indices x sr.mem _ none (hc.gix x hx)
  rw [hloop, sum_loop hc xs (fun _ h => h), hrec]
  refine ⟨rfl, fun g hg => ?_⟩
  have hg0 : sr.mem.gidx tot < (fwd sl.tape g).length := by rw [fwd_length]; exact hg
  have hacc := fwd_accumulate _ _ hops ((fwd sl.tape g).set (sr.mem.gidx tot) 0) (by simpa using hg0)
  rw [List.map_map] at hacc
  rw [fwd_append, fwd_append, fwd_append, hf g hg, fwd_cons, fwd_cons, fwd_nil, fwd_cons, fwd_nil]
  simp only [fwdStep, rhsVal_nil]
  refine Eq.trans ?_ hacc.symm
  rw [rd_set_self _ _ _ hg0, zero_add]

theorem accumulate_mean (tot : Cell) : accumulate (R := R) .mean tot = accumulate .sum tot := rfl

/-- mean: the sum, then one more statement `tot = tot·(1/n)` on both sides -/
theorem mean_core (tot : Cell) (xs : List (SExpr R)) (n : Nat) (sr sl : St R) (hc : Cond sr.mem tot xs)
    (he : Eqv (sr.mem.gidx tot) sr sl) :
    Eqv (sr.mem.gidx tot) (recordCore .mean tot xs n sr) (runProg sl (loopStmts .mean tot xs n)) := by
  have hsum := sum_core tot xs n sr sl hc he
  have hloop : runProg sl (loopStmts .mean tot xs n) =
      elemStep (runProg sl (loopStmts .sum tot xs n)) tot (.mul (.cell tot) (.const (1 / (n : R)))) := by
    simp only [runProg, loopStmts, List.foldl_append, List.foldl_cons, List.foldl_nil]
    rfl
  have hrec : recordCore .mean tot xs n sr =
      elemStep (recordCore .sum tot xs n sr) tot (.mul (.cell tot) (.const (1 / (n : R)))) := by
    have hb1 : (RFun.mean == RFun.minval || RFun.mean == RFun.maxval) = false := by decide
    have hb2 : (RFun.sum == RFun.minval || RFun.sum == RFun.maxval) = false := by decide
    simp only [recordCore, finishActive, firstValue, accumulate_mean, hb1, hb2]
    set a := xs.foldl (accumulate .sum tot) ⟨{ sr with tape := sr.tape ++ [⟨sr.mem.gidx tot, []⟩] }, 0, false, []⟩ with ha
    have hmem : a.st.mem = sr.mem := by rw [ha, acc_fold_mem]
    apply St.ext'
    · simp only [elemStep_mem, SExpr.eval, hmem]
      rw [val_store_self _ _ _ hc.has, store_store]
    · simp only [elemStep_tape, SExpr.grad, SExpr.eval, hmem, store_gidx, store_isActive, hc.act, if_true, Option.getD_some]
      simp
  rw [hloop, hrec]
  exact hsum.elemStep _ _

/-- product: `d tot = t·dx + x·d tot` per element ≃ `tot = 1; tot = tot·x …` -/
theorem product_core (tot : Cell) (xs : List (SExpr R)) (n : Nat) (sr sl : St R) (hc : Cond sr.mem tot xs)
    (he : Eqv (sr.mem.gidx tot) sr sl) :
    Eqv (sr.mem.gidx tot) (recordCore .product tot xs n sr) (runProg sl (loopStmts .product tot xs n)) := by
  obtain ⟨hm, hf⟩ := he
  let Rel : Acc R → St R → Prop := fun a l =>
    a.st.mem = sr.mem ∧ a.pend = [] ∧ l.mem = sr.mem.store tot a.val ∧
    ∃ fr fl, a.st.tape = sr.tape ++ ⟨(sr.mem.gidx tot), []⟩ :: fr ∧ l.tape = sl.tape ++ ⟨(sr.mem.gidx tot), []⟩ :: fl ∧
      ∀ h : Vec R, fwd fr h = fwd fl h
  have hrel : Rel (xs.foldl (accumulate .product tot) ⟨{ sr with tape := sr.tape ++ [⟨(sr.mem.gidx tot), []⟩] }, 1, false, []⟩)
      (xs.foldl (fun l x => elemStep l tot (.mul (.cell tot) x)) (elemStep sl tot (.const 1))) := by
    apply List.foldl_rel (r := Rel)
    · refine ⟨rfl, rfl, ?_, [], [], rfl, ?_, fun h => rfl⟩
      · rw [elemStep_mem, ← hm]; rfl
      · rw [elemStep_tape, ← hm]; rfl
    · intro x hx a l ⟨r1, r2, r3, fr, fl, r4, r5, r6⟩
      obtain ⟨hex, hgx, hvt, hgi, hstore_act⟩ := hc.read hx r3
      refine ⟨?_, ?_, ?_, fr ++ [⟨(sr.mem.gidx tot), x.grad sr.mem (some a.val) ++ [(x.eval sr.mem, (sr.mem.gidx tot))]⟩],
        fl ++ [⟨(sr.mem.gidx tot), (x.eval sr.mem, (sr.mem.gidx tot)) :: x.grad sr.mem (some a.val)⟩], ?_, ?_, ?_⟩
      · simp only [accumulate]; exact r1
      · simp only [accumulate]
      · simp only [accumulate, elemStep_mem, SExpr.eval, r1, hex, hvt]
        rw [r3, store_store]
      · simp only [accumulate, r1, r2, r4, List.nil_append]
        simp
      · rw [elemStep_tape, r5, hgi]
        simp only [SExpr.grad, SExpr.eval, hgi, hgx, hex, hvt, hstore_act, if_true, Option.getD_some]
        simp
      · intro h
        rw [fwd_append, fwd_append, r6 h, fwd_cons, fwd_cons, fwd_nil, fwd_nil]
        simp only [fwdStep]
        congr 1
        rw [rhsVal_append, rhsVal_cons, rhsVal_cons, rhsVal_nil]
        ring
  obtain ⟨r1, r2, r3, fr, fl, r4, r5, r6⟩ := hrel
  have hloop : runProg sl (loopStmts .product tot xs n) =
      xs.foldl (fun l x => elemStep l tot (.mul (.cell tot) x)) (elemStep sl tot (.const 1)) := by
    simp only [runProg, loopStmts, List.foldl_cons, List.foldl_map]
    rfl
  rw [hloop]
  have hb : (RFun.product == RFun.minval || RFun.product == RFun.maxval) = false := by decide
  simp only [recordCore, finishActive, firstValue, hb]
  refine ⟨?_, ?_⟩
  · simp only [r1]; exact r3.symm
  · intro g hg
    simp only [r4, r5]
    rw [fwd_append, fwd_append, hf g hg, fwd_cons, fwd_cons, r6]

/-! minval and maxval differ only in the direction of the comparison -/

def better : RFun → R → R → Bool
  | .maxval, v, x => decide (v < x)
  | _, v, x => decide (x < v)

/-- the guard of the denoted loop: `x > tot` for maxval, `tot > x` for minval -/
def extGuard : RFun → Cell → SExpr R → SMask R
  | .maxval, tot, x => ⟨false, x, .cell tot⟩
  | _, tot, x => ⟨false, .cell tot, x⟩

theorem accumulate_ext {f : RFun} (hf : f = .maxval ∨ f = .minval) (tot : Cell) (a : Acc R) (x : SExpr R) :
    accumulate f tot a x =
      if a.fresh || better f a.val (x.eval a.st.mem) then
        { a with st := { a.st with tape := a.st.tape ++ [⟨a.st.mem.gidx tot, a.pend ++ x.grad a.st.mem none⟩] },
                 val := x.eval a.st.mem, fresh := false, pend := [] }
      else a := by
  rcases hf with rfl | rfl <;> rfl

theorem extGuard_eval {f : RFun} (hf : f = .maxval ∨ f = .minval) (tot : Cell) (m : Mem R) (x : SExpr R) :
    (extGuard f tot x).eval m = better f (m.val tot) (x.eval m) := by
  rcases hf with rfl | rfl <;> rfl

theorem loopStmts_ext {f : RFun} (hf : f = .maxval ∨ f = .minval) (tot : Cell) (xs : List (SExpr R)) (n : Nat) :
    loopStmts f tot xs n = ⟨none, tot, .const 0⟩ ::
      (match xs with
       | [] => []
       | x0 :: r => ⟨none, tot, x0⟩ :: r.map (fun x => ⟨some (extGuard f tot x), tot, x⟩)) := by
  rcases hf with rfl | rfl <;> rfl

theorem recordCore_ext {f : RFun} (hf : f = .maxval ∨ f = .minval) (tot : Cell) (xs : List (SExpr R)) (n : Nat)
    (s : St R) :
    recordCore f tot xs n s =
      { (xs.foldl (accumulate f tot) ⟨{ s with tape := s.tape ++ [⟨s.mem.gidx tot, []⟩] }, 0, true, []⟩).st with
        mem := (xs.foldl (accumulate f tot) ⟨{ s with tape := s.tape ++ [⟨s.mem.gidx tot, []⟩] }, 0, true, []⟩).st.mem.store
          tot (xs.foldl (accumulate f tot) ⟨{ s with tape := s.tape ++ [⟨s.mem.gidx tot, []⟩] }, 0, true, []⟩).val } := by
  rcases hf with rfl | rfl <;> rfl

/-- minval, maxval: every new extremum overwrites `tot` — the same statements as
    `tot = ∓∞; tot = x₀; if (x beats tot) tot = x …` -/
theorem extremum_core {f : RFun} (hf : f = .maxval ∨ f = .minval) (tot : Cell) (xs : List (SExpr R)) (n : Nat)
    (sr sl : St R) (hc : Cond sr.mem tot xs) (he : Eqv (sr.mem.gidx tot) sr sl) :
    Eqv (sr.mem.gidx tot) (recordCore f tot xs n sr) (runProg sl (loopStmts f tot xs n)) := by
  obtain ⟨hm, hfw⟩ := he
  rw [recordCore_ext hf, loopStmts_ext hf]
  cases xs with
  | nil =>
    refine ⟨?_, fun g hg => ?_⟩
    · simp only [List.foldl_nil, runProg, List.foldl_cons, runS_none, elemStep_mem, SExpr.eval, hm]
    · simp only [List.foldl_nil, runProg, List.foldl_cons, runS_none, elemStep_tape, SExpr.grad, ← hm]
      rw [fwd_append, fwd_append, hfw g hg]
  | cons x0 rest =>
    let Rel : Acc R → St R → Prop := fun a l =>
      a.st.mem = sr.mem ∧ a.pend = [] ∧ a.fresh = false ∧ l.mem = sr.mem.store tot a.val ∧
      ∃ fr, a.st.tape = sr.tape ++ fr ∧ l.tape = sl.tape ++ fr
    have hx0s := hc.sid x0 (List.mem_cons_self ..)
    have hrel : Rel (rest.foldl (accumulate f tot)
          (accumulate f tot ⟨{ sr with tape := sr.tape ++ [⟨sr.mem.gidx tot, []⟩] }, 0, true, []⟩ x0))
        (rest.foldl (fun l x => runS l ⟨some (extGuard f tot x), tot, x⟩)
          (elemStep (elemStep sl tot (.const 0)) tot x0)) := by
      apply List.foldl_rel (r := Rel)
      · rw [accumulate_ext hf]
        refine ⟨rfl, rfl, rfl, ?_, [⟨sr.mem.gidx tot, []⟩, ⟨sr.mem.gidx tot, x0.grad sr.mem none⟩], ?_, ?_⟩
        · simp only [Bool.true_or, if_true, elemStep_mem, SExpr.eval, ← hm]
          rw [eval_store_other x0 sr.mem tot 0 hx0s, store_store]
        · simp
        · simp only [elemStep_tape, elemStep_mem, SExpr.grad, SExpr.eval, ← hm, store_gidx,
            grad_store_other x0 sr.mem tot 0 none hx0s]
          simp
      · intro x hx a l ⟨r1, r2, r3, r4, fr, r5, r6⟩
        obtain ⟨hex, hgx, hvt, hgi, _⟩ := hc.read (List.mem_cons_of_mem _ hx) r4
        rw [accumulate_ext hf, runS_some, extGuard_eval hf, hvt, hex, r1, r2, r3, Bool.false_or]
        by_cases hcmp : better f a.val (x.eval sr.mem) = true
        · rw [if_pos hcmp, if_pos hcmp]
          refine ⟨r1, rfl, rfl, ?_, fr ++ [⟨sr.mem.gidx tot, x.grad sr.mem none⟩], ?_, ?_⟩
          · simp only [elemStep_mem, hex]; rw [r4, store_store]
          · simp only [r5, List.append_assoc, List.nil_append]
          · simp only [elemStep_tape, r6, hgi, hgx, List.append_assoc]
        · rw [if_neg hcmp, if_neg hcmp]
          exact ⟨r1, r2, r3, r4, fr, r5, r6⟩
    obtain ⟨r1, r2, r3, r4, fr, r5, r6⟩ := hrel
    have hloop : ∀ l : List (SStmt R), runProg sl (⟨none, tot, .const 0⟩ :: ⟨none, tot, x0⟩ :: l) =
        runProg (elemStep (elemStep sl tot (.const 0)) tot x0) l := fun _ => rfl
    rw [hloop, runProg_map, List.foldl_cons]
    refine ⟨?_, ?_⟩
    · simp only [r1]; exact r4.symm
    · intro g hg
      simp only [r5, r6]
      rw [fwd_append, fwd_append, hfw g hg]

theorem recordCore_eqv (f : RFun) (tot : Cell) (xs : List (SExpr R)) (n : Nat) (sr sl : St R) (hc : Cond sr.mem tot xs)
    (he : Eqv (sr.mem.gidx tot) sr sl) :
    Eqv (sr.mem.gidx tot) (recordCore f tot xs n sr) (runProg sl (loopStmts f tot xs n)) := by
  cases f with
  | sum => exact sum_core tot xs n sr sl hc he
  | mean => exact mean_core tot xs n sr sl hc he
  | product => exact product_core tot xs n sr sl hc he
  | minval => exact extremum_core (Or.inr rfl) tot xs n sr sl hc he
  | maxval => exact extremum_core (Or.inl rfl) tot xs n sr sl hc he

theorem reduceLoop_eq (f : RFun) (tot : Cell) (e : AExpr R) (dl : Nat) (rd : List Nat) (hpos : AllPos (dl :: rd))
    (hw : e.WF (rd.length + 1) dl) (a : Acc R) :
    reduceLoop f tot e (dl :: rd) a =
      ((List.range (prod (dl :: rd))).map (fun p => e.at (unflatR (dl :: rd) p))).foldl (accumulate f tot) a := by
  unfold reduceLoop
  rw [List.foldl_map]
  refine rowsLoop_sim Eq _ (fun a ri => accumulate f tot a (e.at ri)) dl rd 0 _ (by simp) hpos.tail 0 ?_ a a rfl
  rintro a _ ri rfl
  refine foldl_range_aux _ _ (fun j => e.setLoc (j :: ri)) _ a _ rfl ?_
  intro a j hj
  refine ⟨?_, fun hj' => advLoc_setLoc e _ _ hw j ri hj'⟩
  show accumulate f tot a (e.atLoc (e.setLoc (j :: ri))) = _
  rw [atLoc_setLoc e _ _ hw]

theorem reduceAll_eq (f : RFun) (sc tot : Cell) (e : AExpr R) (dl : Nat) (rd : List Nat) (hpos : AllPos (dl :: rd))
    (hw : e.WF (rd.length + 1) dl) (s : St R) :
    reduceAll f sc tot e (dl :: rd) s =
      elemStep (recordCore f tot ((List.range (prod (dl :: rd))).map (fun p => e.at (unflatR (dl :: rd) p)))
        (prod (dl :: rd)) s) sc (.cell tot) := by
  unfold reduceAll recordCore
  simp only [reduceLoop_eq f tot e dl rd hpos hw]

/-- the elements of `e` at the indices `I` stay clear of the accumulator: they read neither its allocation nor a cell
    with its gradient index -/
def Clear (m : Mem R) (tot : Cell) (e : AExpr R) (I : List Nat → Prop) : Prop :=
  m.HasCell tot ∧ m.isActive tot.1 = true ∧
  ∀ ri, I ri → ∀ c ∈ (e.at ri).cellsOf, c.1 ≠ tot.1 ∧ m.gidx c ≠ m.gidx tot

theorem Clear.cond {m : Mem R} {tot : Cell} {e : AExpr R} {I : List Nat → Prop} (h : Clear m tot e I)
    {ι : Type} (l : List ι) (ix : ι → List Nat) (hl : ∀ j ∈ l, I (ix j)) :
    Cond m tot (l.map fun j => e.at (ix j)) := by
  obtain ⟨h1, h2, h3⟩ := h
  refine ⟨h1, h2, ?_, ?_⟩
  · intro x hx c hc
    obtain ⟨j, hj, rfl⟩ := List.mem_map.mp hx
    exact (h3 _ (hl j hj) c hc).1
  · intro x hx c hc
    obtain ⟨j, hj, rfl⟩ := List.mem_map.mp hx
    exact (h3 _ (hl j hj) c hc).2

/-- `ri` is an index of an array with extents `rd` -/
def InRange (rd : List Nat) (ri : List Nat) : Prop := ∃ p, p < prod rd ∧ ri = unflatR rd p

def dropAt (rd : List Nat) (k : Nat) : List Nat := rd.take k ++ rd.drop (k + 1)

theorem dropAt_eq (rd : List Nat) (k : Nat) : rd.take k ++ rd.drop (k + 1) = dropAt rd k := rfl

theorem dropAt_zero (d : Nat) (ds : List Nat) : dropAt (d :: ds) 0 = ds := by simp [dropAt]
theorem dropAt_succ (d : Nat) (ds : List Nat) (k : Nat) : dropAt (d :: ds) (k + 1) = d :: dropAt ds k := by simp [dropAt]

theorem dropAt_length (rd : List Nat) (k : Nat) (hk : k < rd.length) : (dropAt rd k).length = rd.length - 1 := by
  simp [dropAt]; omega

theorem AllPos.dropAt {rd : List Nat} (h : AllPos rd) (k : Nat) : AllPos (dropAt rd k) := by
  intro d hd
  simp only [Adept.ArrayAD.dropAt, List.mem_append] at hd
  cases hd with
  | inl hd => exact h d (List.mem_of_mem_take hd)
  | inr hd => exact h d (List.mem_of_mem_drop hd)

/-- the indices `reduce_dimension` visits: strip `p` of the result, position `i` along the reduced dimension `k` -/
def InStrips (rd : List Nat) (k : Nat) (ri : List Nat) : Prop :=
  ∃ p i, p < prod (rd.take k ++ rd.drop (k + 1)) ∧ i < rd.getD k 0 ∧
    ri = insertAt (unflatR (rd.take k ++ rd.drop (k + 1)) p) k i

theorem InRange.of_lt {rd : List Nat} {p : Nat} (hp : p < prod rd) : InRange rd (unflatR rd p) := ⟨p, hp, rfl⟩

theorem InStrips.of_lt {rd : List Nat} {k p i : Nat} (hp : p < prod (dropAt rd k)) (hi : i < rd.getD k 0) :
    InStrips rd k (insertAt (unflatR (dropAt rd k) p) k i) := ⟨p, i, hp, hi, rfl⟩

/-- `m'` differs from `m` by stored values only -/
def Shape (m m' : Mem R) : Prop :=
  (∀ c, m'.gidx c = m.gidx c) ∧ (∀ sid, m'.isActive sid = m.isActive sid) ∧ (∀ c, m.HasCell c → m'.HasCell c)

theorem Shape.refl (m : Mem R) : Shape m m := ⟨fun _ => rfl, fun _ => rfl, fun _ h => h⟩
theorem Shape.store {m m' : Mem R} (h : Shape m m') (c : Cell) (v : R) : Shape m (m'.store c v) :=
  ⟨fun c' => by rw [store_gidx, h.1], fun sid => by rw [store_isActive, h.2.1],
   fun c' hc => hasCell_store m' c v c' (h.2.2 c' hc)⟩

theorem Clear.shape {m m' : Mem R} {tot : Cell} {e : AExpr R} {I : List Nat → Prop} (h : Clear m tot e I)
    (hs : Shape m m') : Clear m' tot e I := by
  obtain ⟨h1, h2, h3⟩ := h
  refine ⟨hs.2.2 _ h1, by rw [hs.2.1]; exact h2, ?_⟩
  intro ri hri c hc
  exact ⟨(h3 ri hri c hc).1, by rw [hs.1, hs.1]; exact (h3 ri hri c hc).2⟩

theorem recordCore_mem (f : RFun) (tot : Cell) (xs : List (SExpr R)) (n : Nat) (s : St R) :
    ∃ v, (recordCore f tot xs n s).mem = s.mem.store tot v := by
  have hfin : ∀ a : Acc R, (finishActive f tot n a).st.mem = a.st.mem := by
    intro a; cases f <;> rfl
  refine ⟨(finishActive f tot n (xs.foldl (accumulate f tot)
    ⟨{ s with tape := s.tape ++ [⟨s.mem.gidx tot, []⟩] }, firstValue f, (f == .minval || f == .maxval), []⟩)).val, ?_⟩
  show Mem.store _ _ _ = _
  rw [hfin, acc_fold_mem]

theorem insertAt_cons (rj : List Nat) (k i : Nat) : ∃ j r, insertAt rj k i = j :: r := by
  unfold insertAt
  cases h : rj.take k with
  | nil => exact ⟨i, _, rfl⟩
  | cons a l => exact ⟨a, _, rfl⟩

theorem reduceStrip_eq (f : RFun) (tot : Cell) (e : AExpr R) (k d : Nat) (res : View) (rank dl : Nat)
    (hw : e.WF rank dl) (s : St R) (rj : List Nat) :
    reduceStrip f tot e k d res s rj =
      elemStep (recordCore f tot ((List.range d).map (fun i => e.at (insertAt rj k i))) d s)
        (res.cellAt rj) (.cell tot) := by
  unfold reduceStrip recordCore View.cellAt
  simp only
  rw [List.foldl_map]
  have : (fun (a : Acc R) (i : Nat) => accumulate f tot a (e.atLoc (e.setLoc (insertAt rj k i)))) =
      (fun a i => accumulate f tot a (e.at (insertAt rj k i))) := by
    funext a i
    obtain ⟨j, r, hjr⟩ := insertAt_cons rj k i
    rw [hjr, atLoc_setLoc e rank dl hw]
  rw [this]

theorem advBoth_eq_nextIx (ds is : List Nat) :
    advBoth ds is is = ((nextIx ds is).1, (nextIx ds is).1, (nextIx ds is).2) := by
  induction ds generalizing is with
  | nil => rfl
  | cons d ds ih =>
    cases is with
    | nil => rfl
    | cons i is =>
      simp only [advBoth, nextIx, ih]
      by_cases hw : i + 1 < d
      · rw [if_neg (Nat.not_le_of_lt hw), if_pos hw]
      · rw [if_pos (Nat.le_of_not_lt hw), if_neg hw]

theorem insertAt_zero (rj : List Nat) (i : Nat) : insertAt rj 0 i = i :: rj := by simp [insertAt]

theorem insertAt_succ (x : Nat) (rj : List Nat) (k i : Nat) : insertAt (x :: rj) (k + 1) i = x :: insertAt rj k i := by
  simp [insertAt]

/-- the `i`/`inew` walk of `reduce_dimension`: `inew` goes through the odometer of the result's extents and `i` stays
    `inew` with the reduced dimension's entry put back, whatever that entry is -/
theorem advStrip_insertAt (rd : List Nat) (k : Nat) (rj : List Nat) (x : Nat) :
    advStrip rd k (insertAt rj k x) rj =
      (insertAt (nextIx (dropAt rd k) rj).1 k x, (nextIx (dropAt rd k) rj).1, (nextIx (dropAt rd k) rj).2) := by
  induction k generalizing rd rj with
  | zero =>
    cases rd with
    | nil => rfl
    | cons d ds => rw [dropAt_zero, insertAt_zero, insertAt_zero, advStrip, advBoth_eq_nextIx]
  | succ k ih =>
    cases rd with
    | nil => rfl
    | cons d ds =>
      cases rj with
      | nil => rfl
      | cons j js =>
        simp only [dropAt_succ, insertAt_succ, advStrip, nextIx, ih]
        by_cases hw : j + 1 < d
        · rw [if_neg (Nat.not_le_of_lt hw), if_pos hw, insertAt_succ]
        · rw [if_pos (Nat.le_of_not_lt hw), if_neg hw, insertAt_succ]

theorem insertAt_set (rj : List Nat) (k x : Nat) (hk : k ≤ rj.length) : (insertAt rj k 0).set k x = insertAt rj k x := by
  induction k generalizing rj with
  | zero => simp [insertAt_zero]
  | succ k ih =>
    cases rj with
    | nil => simp at hk
    | cons y r =>
      rw [insertAt_succ, insertAt_succ, List.set_cons_succ, ih r (by simpa using hk)]

theorem zeros_insertAt (n k : Nat) (hk : k ≤ n) : insertAt (zeros n) k 0 = zeros (n + 1) := by
  induction k generalizing n with
  | zero => rw [insertAt_zero]; rfl
  | succ k ih =>
    cases n with
    | zero => omega
    | succ n => rw [zeros_succ, insertAt_succ, ih n (by omega)]; rfl



theorem reduceStripLit_eq (f : RFun) (tot : Cell) (e : AExpr R) (k d : Nat) (res : View) (s : St R) (rj : List Nat)
    (hk : k ≤ rj.length) :
    reduceStripLit f tot e k d res s (insertAt rj k 0) rj = reduceStrip f tot e k d res s rj := by
  unfold reduceStripLit reduceStrip
  simp only [insertAt_set rj k _ hk]

/-- the `do { strip; advance i and inew } while (my_rank >= 0)` loop takes the strips in index order of the result -/
theorem stripsLoop_eq (f : RFun) (tot : Cell) (e : AExpr R) (rd : List Nat) (k : Nat) (res : View) (hp : AllPos rd)
    (hk : k < rd.length) (s : St R) :
    stripsLoop f tot e rd k res (prod (dropAt rd k)) (insertAt (zeros (dropAt rd k).length) k 0)
        (zeros (dropAt rd k).length) s =
      (List.range (prod (dropAt rd k))).foldl
        (fun s p => reduceStrip f tot e k (rd.getD k 0) res s (unflatR (dropAt rd k) p)) s := by
  have := doWhile_eq_foldl
    (fun m p s => stripsLoop f tot e rd k res m (insertAt (unflatR (dropAt rd k) p) k 0) (unflatR (dropAt rd k) p) s)
    (fun s p => reduceStrip f tot e k (rd.getD k 0) res s (unflatR (dropAt rd k) p)) (prod (dropAt rd k)) ?_
    (prod_pos (hp.dropAt k)) s
  · simpa only [unflatR_zero] using this
  · intro m p s hlt
    have hlen : k ≤ (unflatR (dropAt rd k) p).length := by
      rw [unflatR_length, dropAt_length rd k hk]; omega
    rw [stripsLoop, advStrip_insertAt, nextIx_unflat _ (hp.dropAt k) p hlt, reduceStripLit_eq f tot e k _ res s _ hlen]
    by_cases h : p + 1 < prod (dropAt rd k)
    · rw [if_pos h, if_pos h]
      rfl
    · rw [if_neg h, if_neg h]
      rfl

end Adept.ArrayAD
