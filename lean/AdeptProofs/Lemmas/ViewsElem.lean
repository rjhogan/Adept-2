import AdeptProofs.Lemmas.Views
/-!
Helper lemmas for the ELEMENT accessors (`elemOffset` / `elemAccess`: Array.h, `fixedElemGo` / `fixedElemAccess`:
FixedArray.h; `AdeptModel/Views.lean`): what a successful access computes, when the bounds-checked build raises, the
Horner form of FixedArray against the packed row-major offsets, element access as an all-scalar `slice`.
-/
namespace Adept.Views

theorem resolveAll_length : ∀ (ds : List Nat) (es : List EndExpr), ds.length = es.length →
    (resolveAll ds es).length = ds.length
  | [], [], _ => rfl
  | _ :: ds, _ :: es, h => congrArg (· + 1) (resolveAll_length ds es (Nat.succ.inj h))
  | [], _ :: _, h => nomatch h
  | _ :: _, [], h => nomatch h

theorem elemOffset_cons (c : Bool) (d : Nat) (ds : List Nat) (s : Int) (ss : List Int) (e : EndExpr) (es : List EndExpr) :
    elemOffset c (d :: ds) (s :: ss) (e :: es) = (do
      let j ← getIndexWithLen c e d
      let rest ← elemOffset c ds ss es
      .ok (j * s + rest)) := rfl

theorem elemOffset_ok (c : Bool) (ds : List Nat) (ss : List Int) (es : List EndExpr) : ∀ {o : Int},
    elemOffset c ds ss es = .ok o →
    ds.length = ss.length ∧ ds.length = es.length ∧ o = dot (resolveAll ds es) ss ∧
      (c = true → InRange (resolveAll ds es) ds) := by
  fun_induction elemOffset c ds ss es with
  | case1 =>
    intro o h
    cases h
    exact ⟨rfl, rfl, rfl, fun _ => trivial⟩
  | case2 d ds s ss e es ih =>
    intro o h
    obtain ⟨j, hj, h⟩ := bind_ok h
    obtain ⟨rest, hr, h⟩ := bind_ok h
    cases h
    obtain ⟨h1, h2, rfl, h4⟩ := ih hr
    obtain ⟨rfl, g2⟩ := getIndex_ok hj
    exact ⟨congrArg (· + 1) h1, congrArg (· + 1) h2, rfl, fun hc => ⟨g2 hc, h4 hc⟩⟩
  | case3 => nofun

theorem elemOffset_of_inRange {c : Bool} : ∀ (ds : List Nat) (ss : List Int) (es : List EndExpr),
    ds.length = ss.length → ds.length = es.length → (c = true → InRange (resolveAll ds es) ds) →
    elemOffset c ds ss es = .ok (dot (resolveAll ds es) ss)
  | [], [], [], _, _, _ => rfl
  | d :: ds, s :: ss, e :: es, h1, h2, hin => by
      rw [elemOffset_cons, getIndex_of_inRange fun hc => (hin hc).1,
        elemOffset_of_inRange ds ss es (Nat.succ.inj h1) (Nat.succ.inj h2) fun hc => (hin hc).2]
      rfl
  | [], _ :: _, _, h, _, _ => nomatch h
  | _ :: _, [], _, h, _, _ => nomatch h
  | [], [], _ :: _, _, h, _ => nomatch h
  | _ :: _, _ :: _, [], _, h, _ => nomatch h

theorem elemOffset_checked_err : ∀ (ds : List Nat) (ss : List Int) (es : List EndExpr),
    ds.length = ss.length → ds.length = es.length → ¬ InRange (resolveAll ds es) ds →
    elemOffset true ds ss es = .error .index_out_of_bounds
  | [], [], [], _, _, hn => absurd trivial hn
  | d :: ds, s :: ss, e :: es, h1, h2, hn => by
      rw [elemOffset_cons]
      by_cases hj : 0 ≤ e.resolve d ∧ e.resolve d < d
      · rw [getIndex_of_inRange fun _ => hj,
          elemOffset_checked_err ds ss es (Nat.succ.inj h1) (Nat.succ.inj h2) fun h => hn ⟨hj, h⟩]
        rfl
      · rw [getIndex_checked_oob hj]
        rfl
  | [], _ :: _, _, h, _, _ => nomatch h
  | _ :: _, [], _, h, _, _ => nomatch h
  | [], [], _ :: _, _, h, _ => nomatch h
  | _ :: _, _ :: _, [], _, h, _ => nomatch h

/-- element access is the all-scalar case of `operator()`: same outcome as the chain of `update_index` calls -/
theorem sliceGo_all_scalar (c : Bool) : ∀ (ds : List Nat) (ss : List Int) (es : List EndExpr),
    sliceGo c ds ss (es.map Ix.at) = (elemOffset c ds ss es).map fun o => (o, [], [])
  | [], [], [] => rfl
  | d :: ds, s :: ss, e :: es => by
      rw [List.map_cons, sliceGo_cons, updateIndex_at, sliceGo_all_scalar c ds ss es, elemOffset_cons]
      cases getIndexWithLen c e d with
      | error x => rfl
      | ok j =>
        cases elemOffset c ds ss es with
        | error x => rfl
        | ok r => rfl
  | [], [], _ :: _ => rfl
  | [], _ :: _, [] => rfl
  | [], _ :: _, _ :: _ => rfl
  | _ :: _, [], [] => rfl
  | _ :: _, [], _ :: _ => rfl
  | _ :: _, _ :: _, [] => rfl

def horner : Int → List Nat → List Int → Int
  | acc, d :: ds, i :: ix => horner ((d : Int) * acc + i) ds ix
  | acc, _, _ => acc

theorem fixedElemGo_cons (c : Bool) (acc : Int) (d : Nat) (ds : List Nat) (e : EndExpr) (es : List EndExpr) :
    fixedElemGo c acc (d :: ds) (e :: es) = (do
      let j ← getIndexWithLen c e d
      fixedElemGo c ((d : Int) * acc + j) ds es) := rfl

theorem fixedElemGo_ok (c : Bool) (acc : Int) (ds : List Nat) (es : List EndExpr) : ∀ {o : Int},
    fixedElemGo c acc ds es = .ok o →
    ds.length = es.length ∧ o = horner acc ds (resolveAll ds es) ∧ (c = true → InRange (resolveAll ds es) ds) := by
  fun_induction fixedElemGo c acc ds es with
  | case1 acc =>
    intro o h
    cases h
    exact ⟨rfl, rfl, fun _ => trivial⟩
  | case2 acc d ds e es ih =>
    intro o h
    obtain ⟨j, hj, h⟩ := bind_ok h
    obtain ⟨rfl, g2⟩ := getIndex_ok hj
    obtain ⟨h1, h2, h3⟩ := ih _ h
    exact ⟨congrArg (· + 1) h1, h2, fun hc => ⟨g2 hc, h3 hc⟩⟩
  | case3 => nofun

theorem fixedElemGo_of_inRange {c : Bool} : ∀ (ds : List Nat) (es : List EndExpr) (acc : Int), ds.length = es.length →
    (c = true → InRange (resolveAll ds es) ds) → fixedElemGo c acc ds es = .ok (horner acc ds (resolveAll ds es))
  | [], [], _, _, _ => rfl
  | d :: ds, e :: es, acc, h, hin => by
      rw [fixedElemGo_cons, getIndex_of_inRange fun hc => (hin hc).1]
      exact fixedElemGo_of_inRange ds es _ (Nat.succ.inj h) fun hc => (hin hc).2
  | [], _ :: _, _, h, _ => nomatch h
  | _ :: _, [], _, h, _ => nomatch h

theorem fixedElemGo_checked_err : ∀ (ds : List Nat) (es : List EndExpr) (acc : Int), ds.length = es.length →
    ¬ InRange (resolveAll ds es) ds → fixedElemGo true acc ds es = .error .index_out_of_bounds
  | [], [], _, _, hn => absurd trivial hn
  | d :: ds, e :: es, acc, h, hn => by
      rw [fixedElemGo_cons]
      by_cases hj : 0 ≤ e.resolve d ∧ e.resolve d < d
      · rw [getIndex_of_inRange fun _ => hj]
        exact fixedElemGo_checked_err ds es _ (Nat.succ.inj h) fun h => hn ⟨hj, h⟩
      · rw [getIndex_checked_oob hj]
        rfl
  | [], _ :: _, _, h, _ => nomatch h
  | _ :: _, [], _, h, _ => nomatch h

/-- Horner form = accumulated prefix times the volume of the remaining dimensions + row-major linear index -/
theorem horner_lin : ∀ (ds : List Nat) (ix : List Int) (acc : Int), ix.length = ds.length →
    horner acc ds ix = acc * prodInt (ds.map Int.ofNat) + lin ds ix
  | [], [], acc, _ => by
      show acc = acc * 1 + 0
      omega
  | d :: ds, i :: ix, acc, h => by
      show horner ((d : Int) * acc + i) ds ix = acc * ((d : Int) * prodInt (ds.map Int.ofNat)) + (i * prodInt (ds.map Int.ofNat) + lin ds ix)
      rw [horner_lin ds ix _ (Nat.succ.inj h), Int.add_mul, Int.mul_comm (d : Int) acc, Int.mul_assoc, Int.add_assoc]
  | [], _ :: _, _, h => nomatch h
  | _ :: _, [], _, h => nomatch h

theorem horner_fresh (ds : List Nat) (ix : List Int) (h : ix.length = ds.length) :
    horner 0 ds ix = addr (fresh true ds) ix := by
  rw [horner_lin ds ix 0 h, Int.zero_mul]
  show _ = 0 + dot ix (packRowMajor ds)
  rw [dot_packRowMajor ds ix h]

/-- decidable equality of element-access results (for the concrete examples in `Props/C06.lean`) -/
instance instDecEqElemResult : DecidableEq (Except Err Int)
  | .ok a, .ok b => if h : a = b then isTrue (by rw [h]) else isFalse (by intro h'; cases h'; exact h rfl)
  | .error a, .error b => if h : a = b then isTrue (by rw [h]) else isFalse (by intro h'; cases h'; exact h rfl)
  | .ok _, .error _ => isFalse (by intro h; cases h)
  | .error _, .ok _ => isFalse (by intro h; cases h)

end Adept.Views
