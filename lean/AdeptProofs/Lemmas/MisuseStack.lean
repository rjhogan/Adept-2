import AdeptProofs.Lemmas.StackProto
/-!
Misuse of the stack protocol (`AdeptModel/StackProto.lean`) as histories: `stepOp` makes the operations that have a documented
misuse one step function, so that a history can be run, and run again with its failed operations erased.
-/
namespace Adept.StackProto
open Adept.Tape Adept.GradAlloc

inductive POp
  | seed (idx : Nat) (v : Int)                         -- `x.set_gradient(v)`
  | get (idx : Nat)                                    -- `x.get_gradient()`
  | fwd | rev                                          -- `compute_tangent_linear` / `compute_adjoint`
  | jacPtr (mode : JMode) (dO iO : Int) (nc : Nat) (fill : Int)
  | jacMat (mode : JMode) (rows cols : Nat)
  | append (lhs x : Nat) (m : Int)                     -- `append_derivative_dependence`
  | stack2                                             -- a second activating `Stack` in the thread
deriving Repr

abbrev Out := Except Exc (List Int)

/-- one operation of a history: a failed operation keeps the state it was given, except
    `seed`, whose lazy `initialize_gradients()` precedes its range test (`Stack::set_gradients`) -/
def stepOp (s : St) : POp → St × Out
  | .seed i v => match s.seed i v with
    | (s', none) => (s', .ok [])
    | (s', some e) => (s', .error e)
  | .get i => match s.getGrad i with
    | .ok g => (s, .ok [g])
    | .error e => (s, .error e)
  | .fwd => match s.forward with
    | .ok s' => (s', .ok [])
    | .error e => (s, .error e)
  | .rev => match s.reverse with
    | .ok s' => (s', .ok [])
    | .error e => (s, .error e)
  | .jacPtr m dO iO nc fill => (s, s.jacPtr m dO iO nc fill)
  | .jacMat m r c => (s, s.jacMat m r c)
  | .append lhs x m => match s.appendDependence lhs x m with
    | .ok s' => (s', .ok [])
    | .error e => (s, .error e)
  | .stack2 => (s, .error .stack_already_active)

def Out.failed : Out → Bool
  | .ok _ => false
  | .error _ => true

/-- the only failing operation that leaves a trace: a first `seed` (it has initialised the working vector) -/
def leavesTrace (s : St) : POp → Bool
  | .seed _ _ => !s.gradInit
  | _ => false

def dropped (s : St) (o : POp) : Bool := (stepOp s o).2.failed && !leavesTrace s o

def run (s : St) : List POp → St × List Out
  | [] => (s, [])
  | o :: os =>
    let r := stepOp s o
    let rest := run r.1 os
    (rest.1, r.2 :: rest.2)

def runKept (s : St) : List POp → St × List Out
  | [] => (s, [])
  | o :: os =>
    let r := stepOp s o
    let rest := runKept r.1 os
    if dropped s o then rest else (rest.1, r.2 :: rest.2)

def dropFailed (s : St) : List POp → List POp
  | [] => []
  | o :: os => if dropped s o then dropFailed (stepOp s o).1 os else o :: dropFailed (stepOp s o).1 os

theorem seed_eq (s : St) (i : Nat) (v : Int) :
    s.seed i v =
      if i + 1 > (if s.gradInit then s else s.initGradients).grad.length
      then ((if s.gradInit then s else s.initGradients), some .gradient_out_of_range)
      else ({ (if s.gradInit then s else s.initGradients) with
                grad := (if s.gradInit then s else s.initGradients).grad.set i v }, none) := by
  cases hi : s.gradInit with
  | true => exact seed_of_init s i v hi
  | false => exact (seed_of_not_init s i v hi).trans (seed_of_init _ i v rfl)

theorem seed_fail_state (s : St) (i : Nat) (v : Int) (e : Exc) (s' : St) (h : s.seed i v = (s', some e)) :
    s' = (if s.gradInit then s else s.initGradients) ∧ e = .gradient_out_of_range := by
  rw [seed_eq] at h
  by_cases hg : i + 1 > (if s.gradInit then s else s.initGradients).grad.length
  · rw [if_pos hg] at h
    cases h
    exact ⟨rfl, rfl⟩
  · rw [if_neg hg] at h
    cases h

theorem dropped_state (s : St) (o : POp) (h : dropped s o = true) : (stepOp s o).1 = s := by
  unfold dropped at h
  revert h
  fun_cases stepOp s o
  all_goals intro h
  · exact Bool.noConfusion h
  · -- a failing seed that is dropped left no trace: the vector had been initialised
    rename_i i v s' e hs
    have hi : s.gradInit = true := by simpa [leavesTrace, Out.failed] using h
    rw [(seed_fail_state s i v e s' hs).1, if_pos hi]
  -- a success is not dropped; every other failure hands back `s` itself
  all_goals first | rfl | exact Bool.noConfusion h

def stmtBelow (n : Nat) (st : Stmt Int) : Prop := st.lhs < n ∧ ∀ p ∈ st.ops, p.2 < n
def TapeBelow (t : List (Stmt Int)) (n : Nat) : Prop := ∀ st ∈ t, stmtBelow n st

theorem TapeBelow.mono {t : List (Stmt Int)} {n m : Nat} (h : TapeBelow t n) (hnm : n ≤ m) : TapeBelow t m :=
  fun st hst => ⟨Nat.lt_of_lt_of_le (h st hst).1 hnm, fun p hp => Nat.lt_of_lt_of_le ((h st hst).2 p hp) hnm⟩

theorem pass_ok_le (s s' : St) (h : s.forward = .ok s' ∨ s.reverse = .ok s') : s.ga.maxGrad ≤ s.grad.length := by
  by_cases hi : s.gradInit = true
  · by_cases hg : s.ga.maxGrad > s.grad.length
    · simp only [St.forward, St.reverse, hi, if_true, if_pos hg] at h
      exact h.elim nofun nofun
    · omega
  · simp only [St.forward, St.reverse, hi, Bool.false_eq_true, if_false] at h
    exact h.elim nofun nofun

theorem initGradients_length (s : St) : s.initGradients.grad.length = s.ga.maxGrad := by
  rw [initGradients_grad, List.length_replicate]

theorem writeFrom_length (g : List Int) (i : Nat) (vs : List Int) : (writeFrom g i vs).length = g.length := by
  induction vs generalizing g i with
  | nil => rfl
  | cons v vs ih => simp [writeFrom, ih]

theorem writeFrom_outside (g : List Int) (st : Nat) (vs : List Int) (i : Nat) (h : i < st ∨ st + vs.length ≤ i) :
    (writeFrom g st vs).getD i 0 = g.getD i 0 := by
  induction vs generalizing g st with
  | nil => rfl
  | cons v vs ih =>
    simp only [writeFrom]
    rw [ih (g.set st v) (st + 1) (by simp only [List.length_cons] at h; omega)]
    have hne : st ≠ i := by simp only [List.length_cons] at h; omega
    simp [List.getD_eq_getElem?_getD, List.getElem?_set_ne hne]

theorem writeFrom_inside (g : List Int) (st : Nat) (vs : List Int) (j : Nat) (hj : j < vs.length)
    (hl : st + vs.length ≤ g.length) : (writeFrom g st vs).getD (st + j) 0 = vs.getD j 0 := by
  induction vs generalizing g st j with
  | nil => simp at hj
  | cons v vs ih =>
    simp only [writeFrom]
    simp only [List.length_cons] at hl hj
    cases j with
    | zero =>
      have h1 := writeFrom_outside (g.set st v) (st + 1) vs st (Or.inl (Nat.lt_succ_self st))
      have : st < g.length := by omega
      simp only [Nat.add_zero]
      rw [h1]
      simp [List.getD_eq_getElem?_getD, List.getElem?_set_self this]
    | succ j =>
      have := ih (g.set st v) (st + 1) j (by omega) (by simp only [List.length_set]; omega)
      rw [show st + (j + 1) = st + 1 + j by omega, this]
      simp

end Adept.StackProto
