import AdeptProofs.Lemmas.TapeLawFree
import Mathlib.Algebra.BigOperators.Group.List.Basic
import Mathlib.Tactic.Ring
/-!
Ring layer for C02 / C13: over a commutative ring the tangent-linear and adjoint sweeps of `AdeptModel/Tape.lean` are adjoint
maps, so a Jacobian entry is the same by a unit-seeded forward or reverse pass; with that, `JacSpec` follows for the reverse
routines from what `Lemmas/TapeLawFree.lean` proves operation for operation.
-/
-- several lemmas below do not use `[DecidableEq R]`
set_option linter.unusedSectionVars false
namespace Adept.Tape
variable {R : Type} [CommRing R] [DecidableEq R]

theorem dot_zero (u v : Vec R) : dot 0 u v = 0 := by
  simp [dot]

theorem dot_succ (N : Nat) (u v : Vec R) :
    dot (N + 1) u v = dot N u v + rd u N * rd v N := by
  simp [dot, List.range_succ, List.map_append, List.sum_append]

theorem dot_comm (N : Nat) (u v : Vec R) : dot N u v = dot N v u := by
  induction N with
  | zero => simp [dot_zero]
  | succ N ih => rw [dot_succ, dot_succ, ih, mul_comm]

theorem dot_set_right_ge (N : Nat) (g h : Vec R) (j : Nat) (v : R) (hj : N ≤ j) :
    dot N g (h.set j v) = dot N g h := by
  induction N with
  | zero => simp [dot_zero]
  | succ N ih =>
    rw [dot_succ, dot_succ, ih (Nat.le_of_succ_le hj), rd_set_ne h j N v (Nat.ne_of_lt hj)]

theorem dot_set_right (N : Nat) (g h : Vec R) (j : Nat) (v : R) (hj : j < N) (hl : j < h.length) :
    dot N g (h.set j v) = dot N g h + rd g j * (v - rd h j) := by
  induction N with
  | zero => exact absurd hj (Nat.not_lt_zero j)
  | succ N ih =>
    rw [dot_succ, dot_succ]
    by_cases hjN : j = N
    · subst hjN
      rw [dot_set_right_ge j g h j v (le_refl _), rd_set_self h j v hl]
      ring
    · rw [ih (Nat.lt_of_le_of_ne (Nat.le_of_lt_succ hj) hjN), rd_set_ne h j N v (fun e => hjN e.symm)]
      ring

theorem dot_set_left (N : Nat) (g h : Vec R) (j : Nat) (v : R) (hj : j < N) (hl : j < g.length) :
    dot N (g.set j v) h = dot N g h + (v - rd g j) * rd h j := by
  rw [dot_comm, dot_set_right N h g j v hj hl, dot_comm]
  ring

theorem dot_replicate_zero (N M : Nat) (g : Vec R) : dot N g (List.replicate M 0) = 0 := by
  induction N with
  | zero => simp [dot_zero]
  | succ N ih => rw [dot_succ, ih, rd_replicate_zero]; ring

theorem unit_length (N x : Nat) : (unit N x : Vec R).length = N := by
  simp [unit]

theorem dot_unit_right (N : Nat) (g : Vec R) (y : Nat) (hy : y < N) :
    dot N g (unit N y) = rd g y := by
  unfold unit
  rw [dot_set_right N g _ y 1 hy (by simpa using hy), dot_replicate_zero, rd_replicate_zero]
  ring

theorem dot_unit_left (N : Nat) (g : Vec R) (y : Nat) (hy : y < N) :
    dot N (unit N y) g = rd g y := by
  rw [dot_comm, dot_unit_right N g y hy]

theorem foldl_add_eq_sum {α : Type} (f : α → R) (l : List α) (a : R) :
    l.foldl (fun a x => a + f x) a = a + (l.map f).sum := by
  induction l generalizing a with
  | nil => simp
  | cons x l ih => rw [List.foldl_cons, ih, List.map_cons, List.sum_cons, add_assoc]

theorem rhsVal_eq_sum (ops : List (R × Nat)) (g : Vec R) :
    rhsVal ops g = (ops.map (fun p => p.1 * rd g p.2)).sum := by
  unfold rhsVal
  rw [foldl_add_eq_sum (fun p : R × Nat => p.1 * rd g p.2), zero_add]

theorem rhsVal_cons (p : R × Nat) (ops : List (R × Nat)) (g : Vec R) :
    rhsVal (p :: ops) g = p.1 * rd g p.2 + rhsVal ops g := by
  rw [rhsVal_eq_sum, rhsVal_eq_sum, List.map_cons, List.sum_cons]

theorem rhsVal_nil (g : Vec R) : rhsVal ([] : List (R × Nat)) g = 0 := rfl

theorem rhsVal_append (a b : List (R × Nat)) (g : Vec R) : rhsVal (a ++ b) g = rhsVal a g + rhsVal b g := by
  rw [rhsVal_eq_sum, rhsVal_eq_sum, rhsVal_eq_sum, List.map_append, List.sum_append]

theorem rhsVal_set_other (ops : List (R × Nat)) (g : Vec R) (T : Nat) (v : R) (h : ∀ p ∈ ops, p.2 ≠ T) :
    rhsVal ops (g.set T v) = rhsVal ops g := by
  rw [rhsVal_eq_sum, rhsVal_eq_sum]
  congr 1
  apply List.map_congr_left
  intro p hp
  rw [rd_set_ne g T p.2 v (h p hp)]

theorem fwdStep_length (s : Stmt R) (g : Vec R) : (fwdStep s g).length = g.length := by
  simp [fwdStep]

theorem scatterStep_length (a : R) (g : Vec R) (p : R × Nat) :
    (scatterStep a g p).length = g.length := by
  simp [scatterStep]

theorem scatter_length (ops : List (R × Nat)) (a : R) (g : Vec R) :
    (scatter ops a g).length = g.length := by
  unfold scatter
  induction ops generalizing g with
  | nil => rfl
  | cons p ops ih => rw [List.foldl_cons, ih, scatterStep_length]

theorem revStep_length (s : Stmt R) (g : Vec R) : (revStep s g).length = g.length := by
  unfold revStep
  simp only
  split
  · simp
  · rw [scatter_length]; simp

theorem rev_nil (g : Vec R) : rev ([] : List (Stmt R)) g = g := rfl
theorem rev_cons (s : Stmt R) (t : List (Stmt R)) (g : Vec R) :
    rev (s :: t) g = revStep s (rev t g) := rfl

theorem fwd_append (a b : List (Stmt R)) (g : Vec R) : fwd (a ++ b) g = fwd b (fwd a g) := by
  unfold fwd; rw [List.foldl_append]

theorem fwd_length (t : List (Stmt R)) (g : Vec R) : (fwd t g).length = g.length := by
  induction t generalizing g with
  | nil => rfl
  | cons s t ih => rw [fwd_cons, ih, fwdStep_length]

theorem rev_length (t : List (Stmt R)) (g : Vec R) : (rev t g).length = g.length := by
  induction t with
  | nil => rfl
  | cons s t ih => rw [rev_cons, revStep_length, ih]

theorem dot_scatter (N : Nat) (ops : List (R × Nat)) (a : R) (g h : Vec R)
    (hops : ∀ p ∈ ops, p.2 < N) (hh : h.length = N) :
    dot N g (scatter ops a h) = dot N g h + a * (ops.map (fun p => p.1 * rd g p.2)).sum := by
  unfold scatter
  induction ops generalizing h with
  | nil => simp
  | cons p ops ih =>
    have hp : p.2 < N := hops p (List.mem_cons_self ..)
    rw [List.foldl_cons, ih (scatterStep a h p) (fun q hq => hops q (List.mem_cons_of_mem _ hq))
      (by rw [scatterStep_length]; exact hh), scatterStep,
      dot_set_right N g h p.2 _ hp (hh.symm ▸ hp), List.map_cons, List.sum_cons]
    ring

/-- the `a = 0` short cut of `compute_adjoint` is not observable -/
theorem dot_revStep (N : Nat) (s : Stmt R) (g h : Vec R)
    (hops : ∀ p ∈ s.ops, p.2 < N) (hh : h.length = N) :
    dot N g (revStep s h) = dot N g (scatter s.ops (rd h s.lhs) (h.set s.lhs 0)) := by
  unfold revStep
  simp only
  split
  · rename_i h0
    rw [dot_scatter N s.ops _ g _ hops (by simpa using hh), h0]
    ring
  · rfl

theorem adjoint_step (N : Nat) (s : Stmt R) (g h : Vec R) (hl : s.lhs < N)
    (hops : ∀ p ∈ s.ops, p.2 < N) (hg : g.length = N) (hh : h.length = N) :
    dot N (fwdStep s g) h = dot N g (revStep s h) := by
  rw [dot_revStep N s g h hops hh, dot_scatter N s.ops _ g _ hops (by simpa using hh),
    dot_set_right N g h s.lhs 0 hl (hh.symm ▸ hl), fwdStep,
    dot_set_left N g h s.lhs _ hl (hg.symm ▸ hl), rhsVal_eq_sum]
  ring

theorem WF_cons {s : Stmt R} {t : List (Stmt R)} {N : Nat} (h : WF (s :: t) N) :
    (s.lhs < N ∧ ∀ p ∈ s.ops, p.2 < N) ∧ WF t N :=
  ⟨h s (List.mem_cons_self ..), fun s' hs' => h s' (List.mem_cons_of_mem _ hs')⟩

theorem adjoint_tape (N : Nat) (t : List (Stmt R)) (g h : Vec R) (ht : WF t N)
    (hg : g.length = N) (hh : h.length = N) :
    dot N (fwd t g) h = dot N g (rev t h) := by
  induction t generalizing g with
  | nil => rfl
  | cons s t ih =>
    obtain ⟨⟨hl, hops⟩, ht'⟩ := WF_cons ht
    rw [fwd_cons, rev_cons, ih (fwdStep s g) ht' (by rw [fwdStep_length]; exact hg),
      adjoint_step N s g (rev t h) hl hops hg (by rw [rev_length]; exact hh)]

theorem jac_fwd_eq_rev (N : Nat) (t : List (Stmt R)) (x y : Nat) (ht : WF t N)
    (hx : x < N) (hy : y < N) :
    jacEntryFwd t N x y = jacEntryRev t N x y := by
  unfold jacEntryFwd jacEntryRev
  rw [← dot_unit_right N (fwd t (unit N x)) y hy,
    adjoint_tape N t _ _ ht (unit_length N x) (unit_length N y), dot_unit_left N _ x hx]

/-! `Writes` over a ring is `LF.Writes` at the ring's zero, `JacSpec` is `LF.JacSpecE` for the table of Jacobian entries: both
unfold to the same proposition, so the law-free lemmas apply as they stand. -/

/-- `o'` is `o` with `E a b` written to `cell a b` for every `(a, b)` in `P`, nothing else changed -/
def Writes (cell : Nat → Nat → Nat) (E : Nat → Nat → R) (P : Nat → Nat → Prop) (o o' : Out R) : Prop :=
  o'.length = o.length ∧
  (∀ a b, P a b → rd o' (cell a b) = E a b) ∧
  (∀ c, (∀ a b, P a b → c ≠ cell a b) → rd o' c = rd o c)

section Writes
variable {cell : Nat → Nat → Nat} {E : Nat → Nat → R} {p q len : Nat}

theorem Writes.single (hc : CellOK cell p q len) {o : Out R} (ho : o.length = len)
    {a b : Nat} (ha : a < p) (hb : b < q) {v : R} (hv : v = E a b) :
    Writes cell E (fun a' b' => a' = a ∧ b' = b) o (o.set (cell a b) v) :=
  LF.Writes.single hc ho ha hb hv

end Writes

theorem jacSpec_iff_jacSpecE {t : List (Stmt R)} {N : Nat} {indep dep : List Nat} {dO iO : Nat} {out out' : Out R} :
    JacSpec t N indep dep dO iO out out' ↔
      LF.JacSpecE (fun i j => jacEntryFwd t N (indep.getD j 0) (dep.getD i 0)) dep.length indep.length
        dO iO out out' := Iff.rfl

theorem JacSpec.unique {t : List (Stmt R)} {N : Nat} {indep dep : List Nat} {dO iO : Nat}
    {out o1 o2 : Out R} (h1 : JacSpec t N indep dep dO iO out o1)
    (h2 : JacSpec t N indep dep dO iO out o2) : o1 = o2 :=
  (jacSpec_iff_jacSpecE.mp h1).unique (jacSpec_iff_jacSpecE.mp h2)

theorem getD_lt_of_mem_bound (l : List Nat) (M i : Nat) (h : ∀ x ∈ l, x < M) (hi : i < l.length) :
    l.getD i 0 < M := by
  rw [getD_eq_getElem l 0 hi]
  exact h _ (List.getElem_mem hi)

/-- What the reverse routines as compiled leave in the buffer (`LF.revVal` in every cell) is the Jacobian: in a ring the
    block-wide flag is invisible, and the adjoint pass computes the entry the tangent-linear pass computes. -/
theorem jacSpec_of_revVal (t : List (Stmt R)) (c : JacCfg) (indep dep : List Nat) (out out' : Out R)
    (hW : 0 < c.W) (ht : WF t c.maxGrad) (hi : ∀ x ∈ indep, x < c.maxGrad) (hd : ∀ y ∈ dep, y < c.maxGrad)
    (h : LF.JacSpecE (fun i j => LF.revVal (fun a => decide (a ≠ 0)) t c indep dep j i) dep.length indep.length
      c.depOff c.indepOff out out') :
    JacSpec t c.maxGrad indep dep c.depOff c.indepOff out out' :=
  jacSpec_iff_jacSpecE.mpr <| h.congr (fun i j hi' hj' => by
    rw [LF.revVal_of_good (LF.SkipOK.of_skip LF.ring_skip) t c indep dep j i hW hi' (fun _ _ _ _ => trivial),
      LF.entryRev_eq, ← jac_fwd_eq_rev c.maxGrad t _ _ ht (getD_lt_of_mem_bound indep _ j hi hj')
        (getD_lt_of_mem_bound dep _ i hd hi')])

end Adept.Tape
