import AdeptProofs.Lemmas.ExprReal
/-!
C01-T2 (table level): the multiplier formulas of the GENERATED binary table are the partial derivatives of the
operation, in the strong form needed for trees: along any differentiable pair of arguments the operation has the
derivative `dL·l' + dR·r'` (chain rule), where `dL`, `dR` are read from `leftMul/rightMul/leftGuard/rightGuard` of the
overload WITHOUT incoming multiplier, with `RES`, `AUX` the values `operation_store` leaves in the scratch slots.

The table is put in closed form policy by policy (the part that fails to compile when a formula or an offset of the
header changes); the calculus uses only the closed forms.
-/
namespace Adept.Expr
open Adept Real Filter Topology

/-- what the store path leaves in `scratch[MyScratchNum]` -/
noncomputable def _root_.Adept.BOp.res (op : BOp) (L R : ℝ) : ℝ :=
  match op.operationStore L R with
  | some (_, z) => z
  | none => op.operation false L R

/-- what the store path leaves in `scratch[MyScratchNum+1]` (policies with `operation_store`) -/
noncomputable def _root_.Adept.BOp.auxv (op : BOp) (L R : ℝ) : ℝ :=
  match op.operationStore L R with
  | some (a, _) => a
  | none => 0

/-- coefficient pushed for the left argument by the overload without incoming multiplier -/
noncomputable def _root_.Adept.BOp.dL (op : BOp) (L R : ℝ) : ℝ :=
  if op.leftGuard false L R then (op.leftMul none L R (op.res L R) (op.auxv L R)).getD 1 else 0

/-- coefficient pushed for the right argument by the overload without incoming multiplier -/
noncomputable def _root_.Adept.BOp.dR (op : BOp) (L R : ℝ) : ℝ :=
  if op.rightGuard false L R then (op.rightMul none L R (op.res L R) (op.auxv L R)).getD 1 else 0

/-- open domain of joint differentiability -/
def _root_.Adept.BOp.dom : BOp → ℝ → ℝ → Prop
  | .Divide => fun _ R => R ≠ 0
  | .Pow => fun L _ => 0 < L
  | .Atan2 => fun L R => 0 < R ∨ L ≠ 0        -- `R + L i` off the closed negative real axis
  | .Max | .Min => fun L R => L ≠ R
  | _ => fun _ _ => True

section table
@[simp] theorem binStoreLeftSlot_eq (sr k nL nl : Nat) : binStoreLeftSlot sr k nL nl = k + nl := by
  unfold binStoreLeftSlot; split <;> rfl
@[simp] theorem binStoreRightSlot_eq (sr k nL nl : Nat) : binStoreRightSlot sr k nL nl = k + nL + nl := by
  unfold binStoreRightSlot; split <;> rfl
@[simp] theorem binLStoreRightSlot_eq (sr k nL nl : Nat) : binLStoreRightSlot sr k nL nl = k + nl := by
  unfold binLStoreRightSlot; split <;> rfl
@[simp] theorem binRStoreLeftSlot_eq (sr k nL nl : Nat) : binRStoreLeftSlot sr k nL nl = k + nl := by
  unfold binRStoreLeftSlot; split <;> rfl
@[simp] theorem leftSlot_eq (op : BOp) (w : Bool) (k nL sr : Nat) : op.leftSlot w k nL sr = k + sr := by
  cases op <;> cases w <;> rfl
@[simp] theorem rightSlot_eq (op : BOp) (w : Bool) (k nL sr : Nat) : op.rightSlot w k nL sr = k + nL + sr := by
  cases op <;> cases w <;> rfl

theorem storeResult_le (op : BOp) : op.storeResult ≤ 2 := by cases op <;> decide

theorem operationStore_isSome (op : BOp) (x y : ℝ) : (op.operationStore x y).isSome = decide (op.storeResult = 2) := by
  cases op <;> rfl

/-- over ℝ the recorded result equals the plain operation (`a * (1/b) = a / b`) -/
theorem res_eq_operation (op : BOp) (L R : ℝ) : op.res L R = op.operation false L R := by
  cases op with
  | Divide => show L * (Num.lit _ 1 1 / R) = L / R; rw [lit_one, mul_one_div]
  | _ => rfl

/-- the `int`-operand overloads of max/min (ternary operator) denote the same function as fmax/fmin -/
theorem operation_any (op : BOp) (mixed : Bool) (L R : ℝ) : op.operation mixed L R = op.operation false L R := by
  cases mixed with
  | false => rfl
  | true =>
    cases op with
    | Max =>
      show (if decide (L < R) then R else L) = max L R
      by_cases h : L < R
      · rw [decide_eq_true h, if_pos rfl, max_eq_right h.le]
      · rw [decide_eq_false h, if_neg Bool.false_ne_true, max_eq_left (not_lt.mp h)]
    | Min =>
      show (if decide (L < R) then L else R) = min L R
      by_cases h : L < R
      · rw [decide_eq_true h, if_pos rfl, min_eq_left h.le]
      · rw [decide_eq_false h, if_neg Bool.false_ne_true, min_eq_right (not_lt.mp h)]
    | _ => rfl

/-- table level: the `calc_left/calc_right` overloads with an incoming multiplier `m` hand down `m ×` what the
    overloads without hand down -/
theorem leftMul_rightMul_linear (op : BOp) (m L R RES AUX : ℝ) :
    (op.leftMul (some m) L R RES AUX).getD 1 = m * (op.leftMul none L R RES AUX).getD 1 ∧
    (op.rightMul (some m) L R RES AUX).getD 1 = m * (op.rightMul none L R RES AUX).getD 1 := by
  cases op with
  | Add | Max | Min => exact ⟨(mul_one m).symm, (mul_one m).symm⟩
  | Subtract =>
    refine ⟨(mul_one m).symm, ?_⟩
    show -m = m * -(Num.lit _ 1 1)
    rw [lit_one, mul_neg, mul_one]
  | Multiply => exact ⟨rfl, rfl⟩
  | Divide =>
    refine ⟨rfl, ?_⟩
    show -m * RES * AUX = m * (-RES * AUX)
    ring
  | Pow => exact ⟨mul_assoc _ _ _, mul_assoc _ _ _⟩
  | Atan2 => exact ⟨mul_comm _ _, mul_comm _ _⟩

theorem guard_withM_eq (op : BOp) (L R : ℝ) :
    op.leftGuard true L R = op.leftGuard false L R ∧ op.rightGuard true L R = op.rightGuard false L R := by
  cases op <;> exact ⟨rfl, rfl⟩

-- what the `simp` of each closed form below unfolds the table with
attribute [local simp] BOp.operation BOp.operationStore BOp.leftGuard BOp.rightGuard BOp.leftMul BOp.rightMul
  BOp.res BOp.auxv BOp.dL BOp.dR lit_one

variable (L R : ℝ)

theorem dL_Add : BOp.dL .Add L R = 1 := by simp
theorem dR_Add : BOp.dR .Add L R = 1 := by simp
theorem dL_Subtract : BOp.dL .Subtract L R = 1 := by simp
theorem dR_Subtract : BOp.dR .Subtract L R = -1 := by simp
theorem dL_Multiply : BOp.dL .Multiply L R = R := by simp
theorem dR_Multiply : BOp.dR .Multiply L R = L := by simp
theorem dL_Divide : BOp.dL .Divide L R = 1 / R := by simp
theorem dR_Divide : BOp.dR .Divide L R = -(L * (1 / R)) * (1 / R) := by simp
theorem dL_Pow : BOp.dL .Pow L R = R * L ^ (R - 1) := by simp
theorem dR_Pow : BOp.dR .Pow L R = L ^ R * Real.log L := by simp [realCfun]
theorem dL_Atan2 : BOp.dL .Atan2 L R = R * (1 / (L * L + R * R)) := by simp
theorem dR_Atan2 : BOp.dR .Atan2 L R = -L * (1 / (L * L + R * R)) := by simp
theorem dL_Max : BOp.dL .Max L R = if R < L then 1 else 0 := by simp
theorem dR_Max : BOp.dR .Max L R = if L ≤ R then 1 else 0 := by simp
theorem dL_Min : BOp.dL .Min L R = if L ≤ R then 1 else 0 := by simp
theorem dR_Min : BOp.dR .Min L R = if R < L then 1 else 0 := by simp

end table

/-- from a scratch in order the coefficients pushed are `dL`, `dR`: only `Divide`, `Atan2` and `Pow` read the scratch -/
theorem coeff_of_scratch (op : BOp) (L R RES AUX : ℝ)
    (h1 : 0 < op.storeResult → RES = op.operation false L R) (h2 : 2 ≤ op.storeResult → AUX = op.auxv L R) :
    (if op.leftGuard false L R then (op.leftMul none L R RES AUX).getD 1 else 0) = op.dL L R ∧
    (if op.rightGuard false L R then (op.rightMul none L R RES AUX).getD 1 else 0) = op.dR L R := by
  cases op with
  | Divide | Atan2 => rw [h1 (by decide), h2 (by decide), ← res_eq_operation]; exact ⟨rfl, rfl⟩
  | Pow => rw [h1 (by decide), ← res_eq_operation]; exact ⟨rfl, rfl⟩
  | _ => exact ⟨rfl, rfl⟩

section chain
variable {l r : ℝ → ℝ} {l' r' t : ℝ}

theorem eventually_lt_curve (hl : HasDerivAt l l' t) (hr : HasDerivAt r r' t) (h : l t < r t) :
    ∀ᶠ s in 𝓝 t, l s < r s :=
  hl.continuousAt.eventually_lt hr.continuousAt h

theorem chain_Max (hl : HasDerivAt l l' t) (hr : HasDerivAt r r' t) (hd : l t ≠ r t) :
    HasDerivAt (fun s => BOp.operation .Max false (l s) (r s))
      (BOp.dL .Max (l t) (r t) * l' + BOp.dR .Max (l t) (r t) * r') t := by
  rw [dL_Max, dR_Max]
  rcases lt_or_gt_of_ne hd with h | h
  · rw [if_neg (not_lt.mpr h.le), if_pos h.le, zero_mul, zero_add, one_mul]
    exact hr.congr_of_eventuallyEq ((eventually_lt_curve hl hr h).mono fun s hs => max_eq_right hs.le)
  · rw [if_pos h, if_neg (not_le.mpr h), zero_mul, add_zero, one_mul]
    exact hl.congr_of_eventuallyEq ((eventually_lt_curve hr hl h).mono fun s hs => max_eq_left hs.le)

theorem chain_Min (hl : HasDerivAt l l' t) (hr : HasDerivAt r r' t) (hd : l t ≠ r t) :
    HasDerivAt (fun s => BOp.operation .Min false (l s) (r s))
      (BOp.dL .Min (l t) (r t) * l' + BOp.dR .Min (l t) (r t) * r') t := by
  rw [dL_Min, dR_Min]
  rcases lt_or_gt_of_ne hd with h | h
  · rw [if_pos h.le, if_neg (not_lt.mpr h.le), zero_mul, add_zero, one_mul]
    exact hl.congr_of_eventuallyEq ((eventually_lt_curve hl hr h).mono fun s hs => min_eq_left hs.le)
  · rw [if_neg (not_le.mpr h), if_pos h, zero_mul, zero_add, one_mul]
    exact hr.congr_of_eventuallyEq ((eventually_lt_curve hr hl h).mono fun s hs => min_eq_right hs.le)

/-- **T2 (table level)**: for every policy of the generated table, along any differentiable pair of arguments inside
    the domain, the operation has derivative `dL·l' + dR·r'`: Mathlib's rule for the operation, compared with the
    closed form of the coefficients. -/
theorem bin_chain (op : BOp) (hl : HasDerivAt l l' t) (hr : HasDerivAt r r' t) (hd : op.dom (l t) (r t)) :
    HasDerivAt (fun s => op.operation false (l s) (r s)) (op.dL (l t) (r t) * l' + op.dR (l t) (r t) * r') t :=
  match op with
  | .Add => (hl.add hr).congr_deriv (by rw [dL_Add, dR_Add, one_mul, one_mul])
  | .Subtract => (hl.sub hr).congr_deriv (by rw [dL_Subtract, dR_Subtract]; ring)
  | .Multiply => (hl.mul hr).congr_deriv (by rw [dL_Multiply, dR_Multiply]; ring)
  | .Divide => (hl.div hr hd).congr_deriv (by rw [dL_Divide, dR_Divide]; field_simp; ring)
  | .Pow => (hl.rpow hr hd).congr_deriv (by rw [dL_Pow, dR_Pow]; ring)
  | .Atan2 => (atan2R_hasDerivAt hl hr hd).congr_deriv (by rw [dL_Atan2, dR_Atan2])
  | .Max => chain_Max hl hr hd
  | .Min => chain_Min hl hr hd

/-- `pow(x, c)` with a passive exponent is differentiable in `x` also at negative `x` (C `pow` is then defined for
    integer `c`, where it agrees with `Real.rpow`: `Real.rpow_intCast`) -/
theorem chain_Pow_const (hl : HasDerivAt l l' t) (c : ℝ) (hd : l t ≠ 0 ∨ 1 ≤ c) :
    HasDerivAt (fun s => BOp.operation .Pow false (l s) c) (BOp.dL .Pow (l t) c * l') t :=
  (hl.rpow_const hd).congr_deriv (by rw [dL_Pow]; ring)

end chain

/-- the partial derivatives proper: `dL` in the left argument with the right one fixed, `dR` in the right one -/
theorem bin_partials (op : BOp) (L R : ℝ) (hd : op.dom L R) :
    HasDerivAt (fun x => op.operation false x R) (op.dL L R) L ∧
    HasDerivAt (fun y => op.operation false L y) (op.dR L R) R :=
  ⟨(bin_chain op (hasDerivAt_id' L) (hasDerivAt_const L R) hd).congr_deriv (by rw [mul_one, mul_zero, add_zero]),
   (bin_chain op (hasDerivAt_const R L) (hasDerivAt_id' R) hd).congr_deriv (by rw [mul_zero, mul_one, zero_add])⟩

end Adept.Expr
