import AdeptProofs.Lemmas.ExprUnary
import AdeptProofs.Lemmas.ExprBinary
/-!
C01 T1–T3 over the tree model `AdeptModel/Expr.lean` instantiated at ℝ:
scratch discipline (`store` / `stored`), linearity of `grad` in the incoming multiplier, and the analytic correctness
of the pushed multipliers along any differentiable curve of inputs.  The last goes through the forward-mode tangent
of the tree (`Node.tangent`): the value has it as derivative, and the pushed operations sum to it.
-/
namespace Adept.Expr
open Adept Real

theorem upd_same (s : Scratch ℝ) (i : Nat) (v : ℝ) : upd s i v i = v := if_pos rfl
theorem upd_other (s : Scratch ℝ) (i j : Nat) (v : ℝ) (h : j ≠ i) : upd s i v j = s j := if_neg h

theorem nLocal_le (op : BOp) (b : Bool) : Node.nLocal op b ≤ 2 := by
  unfold Node.nLocal nLocalScratch; split
  · exact storeResult_le op
  · omega

theorem nLocal_two (op : BOp) (b : Bool) (h : 2 ≤ Node.nLocal op b) : op.storeResult = 2 := by
  unfold Node.nLocal nLocalScratch at h
  have := storeResult_le op
  split at h <;> omega

theorem nLocal_active (op : BOp) : Node.nLocal op true = op.storeResult := rfl

theorem store_un (f : UFun) (a : Node ℝ) (k : Nat) (s : Scratch ℝ) :
    (Node.un f a).store k s = (f.fn (a.store (k + 1) s).1, upd (a.store (k + 1) s).2 k (f.fn (a.store (k + 1) s).1)) := rfl

theorem store_bin (op : BOp) (l r : Node ℝ) (k : Nat) (s : Scratch ℝ) :
    (Node.bin op l r).store k s =
      Node.storeOp op false (Node.nLocal op (l.isActive || r.isActive)) binUsesOperationStore
        (l.store (k + Node.nLocal op (l.isActive || r.isActive)) s).1
        (r.store (k + l.nScratch + Node.nLocal op (l.isActive || r.isActive))
          (l.store (k + Node.nLocal op (l.isActive || r.isActive)) s).2).1 k
        (r.store (k + l.nScratch + Node.nLocal op (l.isActive || r.isActive))
          (l.store (k + Node.nLocal op (l.isActive || r.isActive)) s).2).2 := by
  simp only [Node.store, binStoreLeftSlot_eq, binStoreRightSlot_eq]

theorem store_binL (op : BOp) (mixed : Bool) (c : ℝ) (r : Node ℝ) (k : Nat) (s : Scratch ℝ) :
    (Node.binL op mixed c r).store k s =
      Node.storeOp op mixed (Node.nLocal op r.isActive) binLUsesOperationStore c
        (r.store (k + Node.nLocal op r.isActive) s).1 k (r.store (k + Node.nLocal op r.isActive) s).2 := by
  simp only [Node.store, binLStoreRightSlot_eq]

theorem store_binR (op : BOp) (mixed : Bool) (l : Node ℝ) (c : ℝ) (k : Nat) (s : Scratch ℝ) :
    (Node.binR op mixed l c).store k s =
      Node.storeOp op mixed (Node.nLocal op l.isActive) binRUsesOperationStore
        (l.store (k + Node.nLocal op l.isActive) s).1 c k (l.store (k + Node.nLocal op l.isActive) s).2 := by
  simp only [Node.store, binRStoreLeftSlot_eq]

theorem storeOp_spec (op : BOp) (mixed : Bool) (nl : Nat) (uses : Bool) (x y : ℝ) (k : Nat) (s : Scratch ℝ) :
    (Node.storeOp op mixed nl uses x y k s).1 = op.operation false x y ∧
    (∀ j, j < k ∨ k + nl ≤ j → (Node.storeOp op mixed nl uses x y k s).2 j = s j) ∧
    (0 < nl → (Node.storeOp op mixed nl uses x y k s).2 k = op.operation false x y) ∧
    (2 ≤ nl → uses = true → op.storeResult = 2 → (Node.storeOp op mixed nl uses x y k s).2 (k + 1) = op.auxv x y) := by
  -- the shape of all branches but one: value `operation`, one write at `k`
  have one : ∀ n, 0 < n →
      (op.operation mixed x y = op.operation false x y ∧
       (∀ j, j < k ∨ k + n ≤ j → upd s k (op.operation mixed x y) j = s j) ∧
       (0 < n → upd s k (op.operation mixed x y) k = op.operation false x y)) := fun n hn =>
    ⟨operation_any op mixed x y, fun j hj => upd_other _ _ _ _ (by omega),
      fun _ => (upd_same _ _ _).trans (operation_any op mixed x y)⟩
  rcases nl with _ | _ | nl
  · exact ⟨operation_any op mixed x y, fun _ _ => rfl, fun h => absurd h (lt_irrefl 0), fun h => absurd h (by decide)⟩
  · obtain ⟨h1, h2, h3⟩ := one 1 Nat.one_pos
    exact ⟨h1, h2, h3, fun h => absurd h (by decide)⟩
  · obtain ⟨h1, h2, h3⟩ := one (nl + 2) (Nat.succ_pos _)
    cases uses with
    | false => exact ⟨h1, h2, h3, fun _ h => absurd h (by decide)⟩
    | true =>
      have hres := res_eq_operation op x y
      have hsome := operationStore_isSome op x y
      unfold Node.storeOp
      unfold BOp.res at hres
      unfold BOp.auxv
      cases h : op.operationStore x y with
      | none => rw [h] at hsome; exact ⟨h1, h2, h3, fun _ _ hsr => by rw [hsr] at hsome; exact absurd hsome (by decide)⟩
      | some p =>
        obtain ⟨a, z⟩ := p
        rw [h] at hres
        simp only [] at hres ⊢
        exact ⟨hres, fun j hj => by rw [upd_other _ _ _ _ (by omega), upd_other _ _ _ _ (by omega)],
          fun _ => (upd_same _ _ _).trans hres, fun _ _ _ => by rw [upd_other _ _ _ _ (by omega), upd_same]⟩

/-- the scratch holds the stored values of `n` at slot `k` -/
def ScrOK : Node ℝ → Nat → Scratch ℝ → Prop
  | .active _ _, _, _ => True
  | .passive _, _, _ => True
  | .un f a, k, s => s k = f.fn a.eval ∧ ScrOK a (k + 1) s
  | .bin op l r, k, s =>
    (0 < Node.nLocal op (l.isActive || r.isActive) → s k = op.operation false l.eval r.eval) ∧
    (2 ≤ Node.nLocal op (l.isActive || r.isActive) → s (k + 1) = op.auxv l.eval r.eval) ∧
    ScrOK l (k + Node.nLocal op (l.isActive || r.isActive)) s ∧
    ScrOK r (k + l.nScratch + Node.nLocal op (l.isActive || r.isActive)) s
  | .binL op _ c r, k, s =>
    (0 < Node.nLocal op r.isActive → s k = op.operation false c r.eval) ∧
    (2 ≤ Node.nLocal op r.isActive → s (k + 1) = op.auxv c r.eval) ∧
    ScrOK r (k + Node.nLocal op r.isActive) s
  | .binR op _ l c, k, s =>
    (0 < Node.nLocal op l.isActive → s k = op.operation false l.eval c) ∧
    ScrOK l (k + Node.nLocal op l.isActive) s
  | .noalias a, k, s => ScrOK a k s

theorem ScrOK_congr (n : Node ℝ) : ∀ (k : Nat) (s s' : Scratch ℝ),
    (∀ j, k ≤ j → j < k + n.nScratch → s' j = s j) → ScrOK n k s → ScrOK n k s' := by
  induction n with
  | active i v => intro k s s' _ _; trivial
  | passive v => intro k s s' _ _; trivial
  | un f a ih =>
    intro k s s' h hs
    simp only [Node.nScratch] at h
    exact ⟨(h k le_rfl (by omega)).trans hs.1,
      ih (k + 1) s s' (fun j a b => h j (Nat.le_of_add_right_le a) (by omega)) hs.2⟩
  | bin op l r ihl ihr =>
    intro k s s' h hs
    simp only [Node.nScratch] at h
    obtain ⟨h1, h2, h3, h4⟩ := hs
    exact ⟨fun hp => (h k le_rfl (by omega)).trans (h1 hp), fun hp => (h (k + 1) (Nat.le_succ k) (by omega)).trans (h2 hp),
      ihl _ s s' (fun j a b => h j (Nat.le_of_add_right_le a) (by omega)) h3,
      ihr _ s s' (fun j a b => h j (Nat.le_of_add_right_le (Nat.le_of_add_right_le a)) (by omega)) h4⟩
  | binL op mixed c r ih =>
    intro k s s' h hs
    simp only [Node.nScratch] at h
    obtain ⟨h1, h2, h3⟩ := hs
    exact ⟨fun hp => (h k le_rfl (by omega)).trans (h1 hp), fun hp => (h (k + 1) (Nat.le_succ k) (by omega)).trans (h2 hp),
      ih _ s s' (fun j a b => h j (Nat.le_of_add_right_le a) (by omega)) h3⟩
  | binR op mixed l c ih =>
    intro k s s' h hs
    simp only [Node.nScratch] at h
    exact ⟨fun hp => (h k le_rfl (by omega)).trans (hs.1 hp),
      ih _ s s' (fun j a b => h j (Nat.le_of_add_right_le a) (by omega)) hs.2⟩
  | noalias a ih => exact ih

/-- **T1, T6 at node level**, for `value_at_location_store_<·,k>` (over ℝ: `a * (1/b) = a / b`) -/
theorem store_spec (n : Node ℝ) : ∀ (k : Nat) (s : Scratch ℝ),
    (n.store k s).1 = n.eval ∧ (∀ j, j < k ∨ k + n.nScratch ≤ j → (n.store k s).2 j = s j) ∧ ScrOK n k (n.store k s).2 := by
  induction n with
  | active i v => intro k s; exact ⟨rfl, fun _ _ => rfl, trivial⟩
  | passive v => intro k s; exact ⟨rfl, fun _ _ => rfl, trivial⟩
  | un f a ih =>
    intro k s
    obtain ⟨hv, hf, hs⟩ := ih (k + 1) s
    rw [store_un]
    refine ⟨congrArg f.fn hv, fun j hj => ?_, (upd_same _ _ _).trans (congrArg f.fn hv), ?_⟩
    · simp only [Node.nScratch] at hj
      exact (upd_other _ _ _ _ (by omega)).trans (hf j (by omega))
    · exact ScrOK_congr a (k + 1) _ _ (fun j h1 _ => upd_other _ _ _ _ (by omega)) hs
  | bin op l r ihl ihr =>
    intro k s
    obtain ⟨hx, hfl, hsl⟩ := ihl (k + Node.nLocal op (l.isActive || r.isActive)) s
    obtain ⟨hy, hfr, hsr⟩ := ihr (k + l.nScratch + Node.nLocal op (l.isActive || r.isActive))
      (l.store (k + Node.nLocal op (l.isActive || r.isActive)) s).2
    rw [store_bin, hx, hy]
    obtain ⟨ov, ofr, ores, oaux⟩ := storeOp_spec op false (Node.nLocal op (l.isActive || r.isActive)) binUsesOperationStore
      l.eval r.eval k (r.store (k + l.nScratch + Node.nLocal op (l.isActive || r.isActive))
        (l.store (k + Node.nLocal op (l.isActive || r.isActive)) s).2).2
    refine ⟨ov, fun j hj => ?_, ores, fun hp => oaux hp rfl (nLocal_two _ _ hp), ?_, ?_⟩
    · simp only [Node.nScratch] at hj
      rw [ofr j (by omega), hfr j (by omega), hfl j (by omega)]
    · refine ScrOK_congr l _ _ _ (fun j h1 h2 => ?_) hsl
      rw [ofr j (by omega), hfr j (by omega)]
    · exact ScrOK_congr r _ _ _ (fun j h1 h2 => ofr j (by omega)) hsr
  | binL op mixed c r ih =>
    intro k s
    obtain ⟨hy, hfr, hsr⟩ := ih (k + Node.nLocal op r.isActive) s
    rw [store_binL, hy]
    obtain ⟨ov, ofr, ores, oaux⟩ := storeOp_spec op mixed (Node.nLocal op r.isActive) binLUsesOperationStore c r.eval k
      (r.store (k + Node.nLocal op r.isActive) s).2
    refine ⟨ov.trans (operation_any op mixed _ _).symm, fun j hj => ?_, ores, fun hp => oaux hp rfl (nLocal_two _ _ hp), ?_⟩
    · simp only [Node.nScratch] at hj
      rw [ofr j (by omega), hfr j (by omega)]
    · exact ScrOK_congr r _ _ _ (fun j h1 h2 => ofr j (by omega)) hsr
  | binR op mixed l c ih =>
    intro k s
    obtain ⟨hx, hfl, hsl⟩ := ih (k + Node.nLocal op l.isActive) s
    rw [store_binR, hx]
    obtain ⟨ov, ofr, ores, _⟩ := storeOp_spec op mixed (Node.nLocal op l.isActive) binRUsesOperationStore l.eval c k
      (l.store (k + Node.nLocal op l.isActive) s).2
    refine ⟨ov.trans (operation_any op mixed _ _).symm, fun j hj => ?_, ores, ?_⟩
    · simp only [Node.nScratch] at hj
      rw [ofr j (by omega), hfl j (by omega)]
    · exact ScrOK_congr l _ _ _ (fun j h1 h2 => ofr j (by omega)) hsl
  | noalias a ih => exact ih

theorem store_ScrOK (n : Node ℝ) (k : Nat) (s : Scratch ℝ) : ScrOK n k (n.store k s).2 := (store_spec n k s).2.2

theorem stored_of_ScrOK (n : Node ℝ) : ∀ (k : Nat) (s : Scratch ℝ), ScrOK n k s → n.stored k s = n.eval := by
  induction n with
  | active i v => intro k s _; rfl
  | passive v => intro k s _; rfl
  | un f a _ => intro k s h; exact h.1
  | bin op l r _ _ =>
    intro k s h
    show (if Node.nLocal op (l.isActive || r.isActive) > 0 then s k else (Node.bin op l r).eval) = (Node.bin op l r).eval
    exact ite_eq_right_iff.mpr h.1
  | binL op mixed c r _ =>
    intro k s h
    show (if Node.nLocal op r.isActive > 0 then s k else (Node.binL op mixed c r).eval) = (Node.binL op mixed c r).eval
    exact ite_eq_right_iff.mpr fun hp => (h.1 hp).trans (operation_any op mixed _ _).symm
  | binR op mixed l c _ =>
    intro k s h
    show (if Node.nLocal op l.isActive > 0 then s k else (Node.binR op mixed l c).eval) = (Node.binR op mixed l c).eval
    exact ite_eq_right_iff.mpr fun hp => (h.1 hp).trans (operation_any op mixed _ _).symm
  | noalias a ih => intro k s h; exact ih k s h

/-- **T1**: what `value_stored_<·,k>` reads after `value_at_location_store_<·,k>` is the value of the tree -/
theorem store_stored (n : Node ℝ) (k : Nat) (s : Scratch ℝ) : n.stored k (n.store k s).2 = n.eval :=
  stored_of_ScrOK n k _ (store_ScrOK n k s)

/-- the right-hand side of a derivative statement evaluated at a tangent vector: `Σ m · g[i]` -/
def dotOps (ops : List (ℝ × Nat)) (g : Nat → ℝ) : ℝ := (ops.map (fun p => p.1 * g p.2)).sum

@[simp] theorem dotOps_nil (g : Nat → ℝ) : dotOps [] g = 0 := rfl
@[simp] theorem dotOps_append (a b : List (ℝ × Nat)) (g : Nat → ℝ) : dotOps (a ++ b) g = dotOps a g + dotOps b g := by
  simp [dotOps]
@[simp] theorem dotOps_single (m : ℝ) (i : Nat) (g : Nat → ℝ) : dotOps [(m, i)] g = m * g i := by simp [dotOps]

theorem grad_active (i : Nat) (v : ℝ) (k : Nat) (s : Scratch ℝ) (m : Option ℝ) :
    (Node.active i v).grad k s m = [(m.getD Node.one, i)] := rfl

theorem grad_un_none (f : UFun) (a : Node ℝ) (k : Nat) (s : Scratch ℝ) :
    (Node.un f a).grad k s none = a.grad (k + 1) s (some (f.dexpr (a.stored (k + 1) s) (s k))) := rfl

theorem grad_un_some (f : UFun) (a : Node ℝ) (k : Nat) (s : Scratch ℝ) (w : ℝ) :
    (Node.un f a).grad k s (some w) = a.grad (k + 1) s (some (w * f.dexpr (a.stored (k + 1) s) (s k))) := rfl

theorem grad_bin (op : BOp) (l r : Node ℝ) (k : Nat) (s : Scratch ℝ) (m : Option ℝ) :
    (Node.bin op l r).grad k s m =
      (if l.isActive && op.leftGuard m.isSome (l.stored (k + op.storeResult) s) (r.stored (k + l.nScratch + op.storeResult) s)
        then l.grad (k + op.storeResult) s (op.leftMul m (l.stored (k + op.storeResult) s)
          (r.stored (k + l.nScratch + op.storeResult) s) (s k) (s (k + 1))) else []) ++
      (if r.isActive && op.rightGuard m.isSome (l.stored (k + op.storeResult) s) (r.stored (k + l.nScratch + op.storeResult) s)
        then r.grad (k + l.nScratch + op.storeResult) s (op.rightMul m (l.stored (k + op.storeResult) s)
          (r.stored (k + l.nScratch + op.storeResult) s) (s k) (s (k + 1))) else []) := by
  rw [Node.grad, leftSlot_eq, rightSlot_eq]

theorem grad_binL (op : BOp) (mixed : Bool) (c : ℝ) (r : Node ℝ) (k : Nat) (s : Scratch ℝ) (m : Option ℝ) :
    (Node.binL op mixed c r).grad k s m =
      if r.isActive && op.rightGuard m.isSome c (r.stored (k + op.storeResult) s)
        then r.grad (k + op.storeResult) s (op.rightMul m c (r.stored (k + op.storeResult) s) (s k) (s (k + 1))) else [] := by
  rw [Node.grad, rightSlot_eq]
  rfl

theorem grad_binR (op : BOp) (mixed : Bool) (l : Node ℝ) (c : ℝ) (k : Nat) (s : Scratch ℝ) (m : Option ℝ) :
    (Node.binR op mixed l c).grad k s m =
      if l.isActive && op.leftGuard m.isSome (l.stored (k + op.storeResult) s) c
        then l.grad (k + op.storeResult) s (op.leftMul m (l.stored (k + op.storeResult) s) c (s k) (s (k + 1))) else [] := by
  rw [Node.grad, leftSlot_eq]

theorem grad_inactive (n : Node ℝ) (h : n.isActive = false) : ∀ (k : Nat) (s : Scratch ℝ) (mo : Option ℝ), n.grad k s mo = [] := by
  induction n with
  | active i v => exact Bool.noConfusion h
  | passive v => intro k s mo; rfl
  | un f a ih => intro k s mo; exact ih h _ _ _
  | bin op l r ihl ihr =>
    intro k s mo
    obtain ⟨hl, hr⟩ := Bool.or_eq_false_iff.mp h
    rw [grad_bin, hl, hr]
    rfl
  | binL op mixed c r ih => intro k s mo; rw [grad_binL, show r.isActive = false from h]; rfl
  | binR op mixed l c ih => intro k s mo; rw [grad_binR, show l.isActive = false from h]; rfl
  | noalias a ih => intro k s mo; exact ih h _ _ _

/-- without incoming multiplier the factor is 1: linearity in the multiplier need only be shown for `some w` -/
theorem linear_of_some {F : Option ℝ → ℝ} (h : ∀ w, F (some w) = w * F none) : ∀ mo, F mo = mo.getD 1 * F none
  | none => (one_mul _).symm
  | some w => h w

theorem side_linear {c : Node ℝ} {slot : Nat} {s : Scratch ℝ} {g : Nat → ℝ}
    (ih : ∀ w, dotOps (c.grad slot s (some w)) g = w * dotOps (c.grad slot s none) g)
    (b : Bool) {m1 m0 : Option ℝ} {w : ℝ} (hm : m1.getD 1 = w * m0.getD 1) :
    dotOps (if b = true then c.grad slot s m1 else []) g = w * dotOps (if b = true then c.grad slot s m0 else []) g := by
  have ih' := linear_of_some (F := fun mo => dotOps (c.grad slot s mo) g) ih
  cases b
  · exact (mul_zero w).symm
  · rw [if_pos rfl, if_pos rfl, ih' m1, ih' m0, hm, mul_assoc]

/-- **T2**: `calc_gradient_` with an incoming multiplier pushes `m ×` what the overload without pushes
    (any scratch content, any slot) -/
theorem grad_linear (n : Node ℝ) : ∀ (k : Nat) (s : Scratch ℝ) (mo : Option ℝ) (g : Nat → ℝ),
    dotOps (n.grad k s mo) g = mo.getD 1 * dotOps (n.grad k s none) g := by
  suffices h : ∀ k s g w, dotOps (n.grad k s (some w)) g = w * dotOps (n.grad k s none) g from
    fun k s mo g => linear_of_some (F := fun mo => dotOps (n.grad k s mo) g) (h k s g) mo
  induction n with
  | active i v => intro k s g w; simp [grad_active, Node.one]
  | passive v => intro k s g w; exact (mul_zero _).symm
  | un f a ih =>
    intro k s g w
    rw [grad_un_none, grad_un_some, ih, ih]
    ring
  | bin op l r ihl ihr =>
    intro k s g w
    obtain ⟨hgl, hgr⟩ := guard_withM_eq op (l.stored (k + op.storeResult) s) (r.stored (k + l.nScratch + op.storeResult) s)
    obtain ⟨hml, hmr⟩ := leftMul_rightMul_linear op w (l.stored (k + op.storeResult) s) (r.stored (k + l.nScratch + op.storeResult) s)
      (s k) (s (k + 1))
    simp only [grad_bin, Option.isSome_some, Option.isSome_none, dotOps_append, hgl, hgr]
    rw [mul_add, side_linear (ihl _ s g) _ hml, side_linear (ihr _ s g) _ hmr]
  | binL op mixed c r ih =>
    intro k s g w
    obtain ⟨_, hgr⟩ := guard_withM_eq op c (r.stored (k + op.storeResult) s)
    obtain ⟨_, hmr⟩ := leftMul_rightMul_linear op w c (r.stored (k + op.storeResult) s) (s k) (s (k + 1))
    simp only [grad_binL, Option.isSome_some, Option.isSome_none, hgr]
    exact side_linear (ih _ s g) _ hmr
  | binR op mixed l c ih =>
    intro k s g w
    obtain ⟨hgl, _⟩ := guard_withM_eq op (l.stored (k + op.storeResult) s) c
    obtain ⟨hml, _⟩ := leftMul_rightMul_linear op w (l.stored (k + op.storeResult) s) c (s k) (s (k + 1))
    simp only [grad_binR, Option.isSome_some, Option.isSome_none, hgl]
    exact side_linear (ih _ s g) _ hml
  | noalias a ih => exact ih

/-- what one operand of a binary node contributes: the coefficient `if g then mo.getD 1 else 0` is, for the guard and
    multiplier the table hands down, the body of `BOp.dL` / `BOp.dR` (`coeff_of_scratch`) -/
theorem side_sum (n : Node ℝ) (slot : Nat) (s : Scratch ℝ) (mo : Option ℝ) (g : Bool) (γ' : Nat → ℝ) :
    dotOps (if (n.isActive && g) = true then n.grad slot s mo else []) γ' =
      (if g = true then mo.getD 1 else 0) * dotOps (n.grad slot s none) γ' := by
  cases ha : n.isActive
  · simp [grad_inactive n ha]
  · cases g
    · simp
    · simp [grad_linear n slot s mo γ']

/-- the same tree with every active leaf reading its value from `env` (leaf `i` holds `env i`) -/
def Node.rebind (env : Nat → ℝ) : Node ℝ → Node ℝ
  | .active i _ => .active i (env i)
  | .passive v => .passive v
  | .un f a => .un f (a.rebind env)
  | .bin op l r => .bin op (l.rebind env) (r.rebind env)
  | .binL op mixed c r => .binL op mixed c (r.rebind env)
  | .binR op mixed l c => .binR op mixed (l.rebind env) c
  | .noalias a => .noalias (a.rebind env)

@[simp] theorem rebind_isActive (env : Nat → ℝ) (n : Node ℝ) : (n.rebind env).isActive = n.isActive := by
  induction n <;> simp [Node.rebind, Node.isActive, *]
@[simp] theorem rebind_nScratch (env : Nat → ℝ) (n : Node ℝ) : (n.rebind env).nScratch = n.nScratch := by
  induction n <;> simp [Node.rebind, Node.nScratch, *]

theorem rebind_inactive (env : Nat → ℝ) (n : Node ℝ) (h : n.isActive = false) : n.rebind env = n := by
  induction n with
  | active i v => exact Bool.noConfusion h
  | passive v => rfl
  | un f a ih => exact congrArg (Node.un f) (ih h)
  | bin op l r ihl ihr =>
    obtain ⟨hl, hr⟩ := Bool.or_eq_false_iff.mp h
    exact congrArg₂ (Node.bin op) (ihl hl) (ihr hr)
  | binL op mixed c r ih => exact congrArg (Node.binL op mixed c) (ih h)
  | binR op mixed l c ih => exact congrArg (Node.binR op mixed · c) (ih h)
  | noalias a ih => exact congrArg Node.noalias (ih h)

/-- every function application of the tree is inside its open domain -/
def Node.dom : Node ℝ → Prop
  | .active _ _ => True
  | .passive _ => True
  | .un f a => a.dom ∧ f.dom a.eval
  | .bin op l r => l.dom ∧ r.dom ∧ op.dom l.eval r.eval
  | .binL op _ c r => r.dom ∧ op.dom c r.eval
  | .binR op _ l c =>
    -- `pow(x, n)` with a passive integer exponent is also differentiable (and defined in C) at negative `x`
    l.dom ∧ (op.dom l.eval c ∨ (op = .Pow ∧ l.eval ≠ 0 ∧ ∃ n : ℤ, c = n))
  | .noalias a => a.dom

/-- forward-mode tangent of the tree for the velocity `γ'` of its active leaves.  T3 splits here: it is the derivative
    of the value (calculus, no scratch) and what the pushed operations sum to (algebra, no curve). -/
noncomputable def Node.tangent (γ' : Nat → ℝ) : Node ℝ → ℝ
  | .active i _ => γ' i
  | .passive _ => 0
  | .un f a => f.dexpr a.eval (f.fn a.eval) * a.tangent γ'
  | .bin op l r => op.dL l.eval r.eval * l.tangent γ' + op.dR l.eval r.eval * r.tangent γ'
  | .binL op _ c r => op.dR c r.eval * r.tangent γ'
  | .binR op _ l c => op.dL l.eval c * l.tangent γ'
  | .noalias a => a.tangent γ'

theorem tangent_inactive (γ' : Nat → ℝ) (n : Node ℝ) (h : n.isActive = false) : n.tangent γ' = 0 := by
  induction n with
  | active i v => exact Bool.noConfusion h
  | passive v => rfl
  | un f a ih => simp only [Node.tangent, ih h, mul_zero]
  | bin op l r ihl ihr =>
    simp only [Node.isActive, Bool.or_eq_false_iff] at h
    simp only [Node.tangent, ihl h.1, ihr h.2, mul_zero, add_zero]
  | binL op mixed c r ih => simp only [Node.tangent, ih h, mul_zero]
  | binR op mixed l c ih => simp only [Node.tangent, ih h, mul_zero]
  | noalias a ih => exact ih h

theorem tangent_hasDerivAt (γ : ℝ → Nat → ℝ) (γ' : Nat → ℝ) (t₀ : ℝ)
    (hγ : ∀ i, HasDerivAt (fun t => γ t i) (γ' i) t₀) (n : Node ℝ) :
    (n.rebind (γ t₀)).dom → HasDerivAt (fun t => (n.rebind (γ t)).eval) ((n.rebind (γ t₀)).tangent γ') t₀ := by
  induction n with
  | active i v => intro _; exact hγ i
  | passive v => intro _; exact hasDerivAt_const t₀ v
  | un f a ih =>
    intro hd
    -- the chain rule for `f.fn ∘ fun t => (a.rebind (γ t)).eval`
    exact HasDerivAt.comp (h₂ := f.fn) (h := fun t => (a.rebind (γ t)).eval) t₀ (unary_table_sound f _ hd.2) (ih hd.1)
  | bin op l r ihl ihr => intro hd; exact bin_chain op (ihl hd.1) (ihr hd.2.1) hd.2.2
  | binL op mixed c r ih =>
    intro hd
    have h := bin_chain op (hasDerivAt_const t₀ c) (ih hd.1) hd.2
    simp only [Node.rebind, Node.eval, operation_any op mixed]
    exact h.congr_deriv (by rw [mul_zero, zero_add]; rfl)
  | binR op mixed l c ih =>
    intro hd
    simp only [Node.rebind, Node.eval, operation_any op mixed]
    rcases hd.2 with hop | ⟨hop, hne, _⟩
    · exact (bin_chain op (ih hd.1) (hasDerivAt_const t₀ c) hop).congr_deriv (by rw [mul_zero, add_zero]; rfl)
    · subst hop; exact chain_Pow_const (ih hd.1) c (Or.inl hne)
  | noalias a ih => exact ih

theorem grad_dot_tangent (γ' : Nat → ℝ) (n : Node ℝ) : ∀ (k : Nat) (s : Scratch ℝ), n.wf = true → ScrOK n k s →
    dotOps (n.grad k s none) γ' = n.tangent γ' := by
  induction n with
  | active i v => intro k s _ _; simp [grad_active, Node.one, Node.tangent]
  | passive v => intro k s _ _; rfl
  | un f a ih =>
    intro k s hwf hscr
    simp only [grad_un_none, Node.tangent]
    rw [grad_linear, ih _ _ hwf hscr.2, stored_of_ScrOK _ _ _ hscr.2, hscr.1, Option.getD_some]
  | bin op l r ihl ihr =>
    intro k s hwf hscr
    cases hact : (l.isActive || r.isActive)
    · rw [grad_inactive (.bin op l r) hact, tangent_inactive _ (.bin op l r) hact, dotOps_nil]
    · obtain ⟨h1, h2, h3, h4⟩ := hscr
      rw [hact, nLocal_active] at h1 h2 h3 h4
      simp only [Node.wf, Bool.and_eq_true] at hwf
      obtain ⟨e1, e2⟩ := coeff_of_scratch op l.eval r.eval (s k) (s (k + 1)) h1 h2
      simp only [grad_bin, Node.tangent, dotOps_append, Option.isSome_none]
      rw [stored_of_ScrOK _ _ s h3, stored_of_ScrOK _ _ s h4, side_sum, side_sum, ihl _ _ hwf.1 h3, ihr _ _ hwf.2 h4,
        e1, e2]
  | binL op mixed c r ih =>
    intro k s hwf hscr
    cases hact : r.isActive
    · rw [grad_inactive (.binL op mixed c r) hact, tangent_inactive _ (.binL op mixed c r) hact, dotOps_nil]
    · obtain ⟨h1, h2, h4⟩ := hscr
      rw [hact, nLocal_active] at h1 h2 h4
      simp only [grad_binL, Node.tangent, Option.isSome_none]
      rw [stored_of_ScrOK _ _ s h4, side_sum, ih _ _ hwf h4, (coeff_of_scratch op c r.eval (s k) (s (k + 1)) h1 h2).2]
  | binR op mixed l c ih =>
    intro k s hwf hscr
    cases hact : l.isActive
    · rw [grad_inactive (.binR op mixed l c) hact, tangent_inactive _ (.binR op mixed l c) hact, dotOps_nil]
    · obtain ⟨h1, h3⟩ := hscr
      rw [hact, nLocal_active] at h1 h3
      simp only [Node.wf, hact, Bool.true_and, Bool.and_eq_true, Bool.not_eq_true', decide_eq_false_iff_not, not_le] at hwf
      simp only [grad_binR, Node.tangent, Option.isSome_none]
      rw [stored_of_ScrOK _ _ s h3, side_sum, ih _ _ hwf.1 h3,
        (coeff_of_scratch op l.eval c (s k) (s (k + 1)) h1 (fun hp => absurd hp (not_le.mpr hwf.2))).1]
  | noalias a ih => exact ih

/-- **T3**: along any curve of inputs differentiable at `t₀`, the value of the tree has the derivative
    `Σ_{(m,i) ∈ grad} m · γ'ᵢ`, where `grad` is what `calc_gradient_` pushes from a scratch in order -/
theorem grad_hasDerivAt (γ : ℝ → Nat → ℝ) (γ' : Nat → ℝ) (t₀ : ℝ)
    (hγ : ∀ i, HasDerivAt (fun t => γ t i) (γ' i) t₀) (n : Node ℝ) :
    ∀ (k : Nat) (s : Scratch ℝ), (n.rebind (γ t₀)).wf = true → (n.rebind (γ t₀)).dom → ScrOK (n.rebind (γ t₀)) k s →
      HasDerivAt (fun t => (n.rebind (γ t)).eval) (dotOps ((n.rebind (γ t₀)).grad k s none) γ') t₀ :=
  fun k s hwf hdom hscr =>
    (tangent_hasDerivAt γ γ' t₀ hγ n hdom).congr_deriv (grad_dot_tangent γ' _ k s hwf hscr).symm

end Adept.Expr
