import AdeptModel.Solve
import AdeptProofs.Lemmas.Basic
/-!
# Helper lemmas for C16 (marshalling of solve/inv to LAPACK)

Core Lean only.  Generic in the LAPACK implementation `L` and in the carrier `α`: `0 1 + *` only state the defining
equations, no algebraic law is used, the numerical content is the contract's.

Each entry point is described by its result as a function of what the driver returns on the filled temporaries
(`…_res`) and by its frame (`…_extends`); `Spec.of_info` turns these and the contract into `Spec`.
-/
-- statements below carry the section's `0 1 + *` instances whether or not they use all four
set_option linter.unusedSectionVars false
namespace Adept.Solve
open Adept.Lapack

variable {α : Type}

theorem sumTo_congr [Zero α] [Add α] {n : Nat} {f g : Nat → α} (h : ∀ j, j < n → f j = g j) : sumTo n f = sumTo n g := by
  induction n with
  | zero => rfl
  | succ k ih =>
    simp only [sumTo]
    rw [ih (fun j hj => h j (Nat.lt_succ_of_lt hj)), h k (Nat.lt_succ_self k)]

section Congr
variable [Zero α] [One α] [Add α] [Mul α]

theorem singular_congr {n : Nat} {M M' : Nat → Nat → α} (h : ∀ i j, i < n → j < n → M i j = M' i j) :
    Singular n M → Singular n M' := by
  rintro ⟨v, hv, hk⟩
  refine ⟨v, hv, fun i hi => ?_⟩
  rw [← hk i hi]
  exact sumTo_congr (fun j hj => by rw [h i j hi hj])

theorem singular_iff_congr {n : Nat} {M M' : Nat → Nat → α} (h : ∀ i j, i < n → j < n → M i j = M' i j) :
    Singular n M ↔ Singular n M' :=
  ⟨singular_congr h, singular_congr (fun i j hi hj => (h i j hi hj).symm)⟩

theorem isSolution_congr {n nrhs : Nat} {M M' X X' B B' : Nat → Nat → α}
    (hM : ∀ i j, i < n → j < n → M i j = M' i j)
    (hX : ∀ j k, j < n → k < nrhs → X j k = X' j k)
    (hB : ∀ i k, i < n → k < nrhs → B i k = B' i k) :
    IsSolution n nrhs M X B → IsSolution n nrhs M' X' B' := by
  intro hs i hi k hk
  rw [← hB i k hi hk, ← hs i hi k hk]
  exact sumTo_congr (fun j hj => by rw [hM i j hi hj, hX j k hj hk])

theorem isInverse_congr {n : Nat} {M M' R R' : Nat → Nat → α}
    (hM : ∀ i j, i < n → j < n → M i j = M' i j)
    (hR : ∀ i j, i < n → j < n → R i j = R' i j) :
    IsInverse n M R → IsInverse n M' R' := by
  intro hs i hi k hk
  obtain ⟨h1, h2⟩ := hs i hi k hk
  refine ⟨?_, ?_⟩
  · rw [← h1]; exact sumTo_congr (fun j hj => by rw [hM i j hi hj, hR j k hj hk])
  · rw [← h2]; exact sumTo_congr (fun j hj => by rw [hR i j hi hj, hM j k hj hk])

end Congr

/-! ## index arithmetic of the copies

Position `i + j * n` with `i < n`: element `(i,j)` column-major with leading dimension `n`, or `(j,i)` row-major. -/

/-- the column-major temporary holds the operand: what `?gesv`/`?getrf` see with `lda = rows` is `A` -/
theorem fillColMajor_geMat (A : Mat α) (old : Buf α) {i j : Nat} (hi : i < A.rows) (hj : j < A.cols) :
    geMat A.rows (fillColMajor A old) i j = A.get i j := by
  have hn : A.rows ≠ 0 := by omega
  simp only [geMat, fillColMajor, hn, if_false, add_mul_div_of_lt hi, add_mul_mod_of_lt hi, hj, if_true]

theorem fillVec_get (b : Vec α) (old : Buf α) {i : Nat} (hi : i < b.n) : fillVec b old i = b.get i := by
  simp only [fillVec, hi, if_true]

theorem fillVec_geMat (b : Vec α) (old : Buf α) (ld : Nat) {i : Nat} (hi : i < b.n) :
    geMat ld (fillVec b old) i 0 = b.get i := by
  simp only [geMat, Nat.zero_mul, Nat.add_zero, fillVec_get b old hi]

theorem fillRowMajor_view (A : Mat α) (old : Buf α) {i j : Nat} (hi : i < A.rows) (hj : j < A.cols) :
    (Mat.ofView A.rows A.cols 0 A.cols 1 (fillRowMajor A old)).get i j = A.get i j := by
  have hn : A.cols ≠ 0 := by omega
  have h1 : (0 + i * A.cols + j * 1) / A.cols = i := by
    rw [Nat.zero_add, Nat.mul_one, Nat.add_comm, add_mul_div_of_lt hj]
  have h2 : (0 + i * A.cols + j * 1) % A.cols = j := by
    rw [Nat.zero_add, Nat.mul_one, Nat.add_comm, add_mul_mod_of_lt hj]
  simp only [Mat.ofView, fillRowMajor, hn, if_false, h1, h2, hi, if_true]

theorem symm_of_lt {β : Type} {f : Nat → Nat → β} (h : ∀ i j, i < j → f i j = f j i) (i j : Nat) : f i j = f j i := by
  rcases Nat.lt_trichotomy i j with hij | rfl | hij
  · exact h i j hij
  · rfl
  · exact (h j i hij).symm

/-- a `SymmMatrix` object is symmetric by construction (`SymmEngine::index` mirrors) -/
theorem symIndex_symm (o : Orient) (i j offset : Nat) : symIndex o i j offset = symIndex o j i offset := by
  refine symm_of_lt (f := fun i j => symIndex o i j offset) (fun i j h => ?_) i j
  have h1 : ¬ j ≤ i := Nat.not_le_of_lt h
  have h2 : i ≤ j := Nat.le_of_lt h
  cases o <;> simp only [symIndex, ge_iff_le, h1, h2, if_true, if_false] <;> exact Nat.add_comm _ _

theorem Sym.ofStorage_symm (o : Orient) (n off offset : Nat) (buf : Buf α) (i j : Nat) :
    (Sym.ofStorage o n off offset buf).get i j = (Sym.ofStorage o n off offset buf).get j i := by
  simp only [Sym.ofStorage, symIndex_symm o i j]

theorem syMat_eq (u : Uplo) (ld : Nat) (a : Buf α) (i j : Nat) :
    syMat u ld a i j = if u.inTri i j = true then a (i + j * ld) else a (j + i * ld) := by
  cases u <;> simp only [syMat, Uplo.inTri, decide_eq_true_eq]

theorem inTri_total {u : Uplo} {i j : Nat} (h : ¬ u.inTri i j = true) : u.inTri j i = true := by
  cases u <;> simp only [Uplo.inTri, decide_eq_true_eq] at h ⊢ <;> exact Nat.le_of_not_le h

theorem syMat_symm (u : Uplo) (ld : Nat) (a : Buf α) (i j : Nat) : syMat u ld a i j = syMat u ld a j i := by
  refine symm_of_lt (f := syMat u ld a) (fun i j h => ?_) i j
  have h1 : i ≤ j := Nat.le_of_lt h
  have h2 : ¬ j ≤ i := Nat.not_le_of_lt h
  cases u <;> simp only [syMat, h1, h2, if_true, if_false]

/-- "Treat symmetric matrix as column-major": the row-major stored triangle is the column-major triangle `uploOf`
    (`ROW_LOWER_COL_UPPER` ↦ `'U'`, `ROW_UPPER_COL_LOWER` ↦ `'L'`) -/
theorem Orient.stored_eq (o : Orient) (r c : Nat) : o.stored r c = (uploOf o).inTri c r := by
  cases o <;> rfl

theorem symIndex_eq (o : Orient) (i j n : Nat) :
    symIndex o i j n = if o.stored i j = true then i * n + j else i + j * n := by
  cases o <;> simp only [symIndex, Orient.stored, decide_eq_true_eq, ge_iff_le]

theorem fillSym_stored (S : Sym α) (old : Buf α) {r c : Nat} (hr : r < S.n) (hc : c < S.n)
    (hs : S.orient.stored r c = true) : fillSym S old (c + r * S.n) = S.get r c := by
  have hn : S.n ≠ 0 := Nat.ne_of_gt (Nat.lt_of_le_of_lt (Nat.zero_le _) hr)
  simp only [fillSym, hn, if_false, add_mul_div_of_lt hc, add_mul_mod_of_lt hc, hr, hs, and_self, if_true]

/-- **input side**: the temporary `A_` (stored triangle copied, the rest junk `old`) read by Fortran with
    `uplo = uploOf orient`, `lda = n` is the operand: in the `uplo` triangle Fortran reads `(j,i)` of the stored
    triangle, which is `(i,j)` by symmetry; elsewhere `syMat` mirrors and reads `(i,j)` itself. -/
theorem fillSym_syMat (S : Sym α) (old : Buf α) (hsym : ∀ i j, S.get i j = S.get j i)
    {i j : Nat} (hi : i < S.n) (hj : j < S.n) :
    syMat (uploOf S.orient) S.n (fillSym S old) i j = S.get i j := by
  rw [syMat_eq]
  split
  · next ht => rw [fillSym_stored S old hj hi ((S.orient.stored_eq j i).trans ht)]; exact hsym j i
  · next ht => exact fillSym_stored S old hi hj ((S.orient.stored_eq i j).trans (inTri_total ht))

/-- **output side**: reading the buffer back as a `SymmMatrix` of the same orientation (offset `n`) gives
    the symmetric matrix the Fortran routine denotes by `(uplo, lda = n)` -/
theorem ofStorage_syMat (o : Orient) (n : Nat) (buf : Buf α) (i j : Nat) :
    (Sym.ofStorage o n 0 n buf).get i j = syMat (uploOf o) n buf i j := by
  show buf (0 + symIndex o i j n) = _
  rw [Nat.zero_add, symIndex_eq, o.stored_eq]
  split
  · next ht => rw [syMat_symm, syMat_eq, if_pos ht, Nat.add_comm]
  · next ht => rw [syMat_eq, if_pos (inTri_total ht)]

/-- `h'` extends `h`: no buffer of `h` has been written, buffers may have been added -/
def Heap.Extends (h h' : Heap α) : Prop := h.next ≤ h'.next ∧ ∀ id, id < h.next → h'.mem id = h.mem id

theorem Heap.Extends.refl (h : Heap α) : h.Extends h := ⟨Nat.le_refl _, fun _ _ => rfl⟩

theorem Heap.Extends.trans {h1 h2 h3 : Heap α} (a : h1.Extends h2) (b : h2.Extends h3) : h1.Extends h3 :=
  ⟨Nat.le_trans a.1 b.1, fun id hid => by rw [b.2 id (Nat.lt_of_lt_of_le hid a.1), a.2 id hid]⟩

theorem Heap.Extends.alloc {h0 h : Heap α} (e : h0.Extends h) : h0.Extends h.alloc.1 :=
  ⟨Nat.le_succ_of_le e.1, e.2⟩

theorem Heap.Extends.store {h0 h : Heap α} (e : h0.Extends h) {id : Nat} (hid : h0.next ≤ id) (f : Buf α) :
    h0.Extends (h.store id f) :=
  ⟨e.1, fun i hi => by rw [← e.2 i hi]; exact if_neg (Nat.ne_of_lt (Nat.lt_of_lt_of_le hi hid))⟩

theorem Heap.Extends.ite {ρ : Type} {h : Heap α} {c : Prop} [Decidable c] {o1 o2 : Out α ρ}
    (e1 : h.Extends o1.heap) (e2 : h.Extends o2.heap) : h.Extends (if c then o1 else o2).heap := by
  split
  · exact e1
  · exact e2

theorem Heap.Extends.twoTemps (h : Heap α) (f1 g1 f2 g2 : Buf α) :
    h.Extends ((((h.alloc.1.store h.next f1).alloc.1.store (h.next + 1) g1).store h.next f2).store (h.next + 1) g2) :=
  (((((Heap.Extends.refl h).alloc.store (Nat.le_refl _) _).alloc.store (Nat.le_succ _) _).store (Nat.le_refl _) _).store
    (Nat.le_succ _) _)

theorem Heap.mem_store_self (h : Heap α) (id : Nat) (f : Buf α) : (h.store id f).mem id = f := if_pos rfl

theorem Heap.mem_store_succ (h : Heap α) (id : Nat) (f : Buf α) : (h.store (id + 1) f).mem id = h.mem id :=
  if_neg (Nat.ne_of_lt (Nat.lt_succ_self id))

theorem Heap.mem_succ_store (h : Heap α) (id : Nat) (f : Buf α) : (h.store id f).mem (id + 1) = h.mem (id + 1) :=
  if_neg (Nat.succ_ne_self id)

theorem Heap.next_store (h : Heap α) (id : Nat) (f : Buf α) : (h.store id f).next = h.next := rfl

/-! ## the entry points: result and frame (the contract is not needed) -/
section EntryPoints
variable (L : Impl α)

theorem densify_extends (h : Heap α) (M : Mat α) : h.Extends (densify h M).1 :=
  (Heap.Extends.refl h).alloc.store (Nat.le_refl _) _

def Mat.Agrees (D M : Mat α) : Prop :=
  D.rows = M.rows ∧ D.cols = M.cols ∧ ∀ i j, i < M.rows → j < M.cols → D.get i j = M.get i j

def Vec.Agrees (d v : Vec α) : Prop := d.n = v.n ∧ ∀ i, i < v.n → d.get i = v.get i

theorem Mat.Agrees.refl (M : Mat α) : M.Agrees M := ⟨rfl, rfl, fun _ _ _ _ => rfl⟩

theorem Vec.Agrees.refl (v : Vec α) : v.Agrees v := ⟨rfl, fun _ _ => rfl⟩

theorem Mat.Agrees.square {D M : Mat α} (hA : D.Agrees M) (hsq : M.rows = M.cols) : D.rows = D.cols :=
  hA.1.trans (hsq.trans hA.2.1.symm)

/-- a `SymmMatrix` operand is square -/
theorem Sym.toMat_square (S : Sym α) : S.toMat.rows = S.toMat.cols := rfl

theorem densify_get (h : Heap α) (M : Mat α) {i j : Nat} (hi : i < M.rows) (hj : j < M.cols) :
    (densify h M).2.get i j = M.get i j := by
  simp only [densify, Heap.alloc, Heap.mem_store_self]
  exact fillRowMajor_view M _ hi hj

theorem densify_agrees (h : Heap α) (M : Mat α) : (densify h M).2.Agrees M :=
  ⟨rfl, rfl, fun _ _ hi hj => densify_get h M hi hj⟩

theorem densifyVec_extends (h : Heap α) (v : Vec α) : h.Extends (densifyVec h v).1 :=
  (Heap.Extends.refl h).alloc.store (Nat.le_refl _) _

theorem densifyVec_agrees (h : Heap α) (v : Vec α) : (densifyVec h v).2.Agrees v := by
  refine ⟨rfl, fun i hi => ?_⟩
  simp only [densifyVec, Heap.alloc, Heap.mem_store_self, Vec.ofView, Nat.zero_add, Nat.mul_one]
  exact fillVec_get v _ hi

theorem solveGenVec_res (h : Heap α) (A : Mat α) (b : Vec α) :
    (solveGenVec L h A b).res =
      let r := L.gesv A.rows 1 (fillColMajor A (h.mem h.next)) A.rows (fillVec b (h.mem (h.next + 1))) A.rows
      if r.info ≠ 0 then .error .matrix_ill_conditioned else .ok { n := b.n, get := r.b } := by
  simp only [solveGenVec, Heap.alloc, Heap.next_store, Heap.mem_store_self, Heap.mem_store_succ, Heap.mem_succ_store]

theorem solveGenVec_extends (h : Heap α) (A : Mat α) (b : Vec α) : h.Extends (solveGenVec L h A b).heap :=
  Heap.Extends.twoTemps h _ _ _ _

theorem solveGenMat_res (h : Heap α) (A B : Mat α) :
    (solveGenMat L h A B).res =
      let r := L.gesv A.rows B.cols (fillColMajor A (h.mem h.next)) A.rows (fillColMajor B (h.mem (h.next + 1))) A.rows
      if r.info ≠ 0 then .error .matrix_ill_conditioned
      else .ok { rows := B.rows, cols := B.cols, get := fun i j => r.b (i + j * B.rows) } := by
  simp only [solveGenMat, Heap.alloc, Heap.next_store, Heap.mem_store_self, Heap.mem_store_succ, Heap.mem_succ_store]

theorem solveGenMat_extends (h : Heap α) (A B : Mat α) : h.Extends (solveGenMat L h A B).heap :=
  Heap.Extends.twoTemps h _ _ _ _

theorem solveSymMat_res (h : Heap α) (S : Sym α) (B : Mat α) :
    (solveSymMat L h S B).res =
      let r := L.sysv (uploOf S.orient) S.n B.cols (fillSym S (h.mem h.next)) S.n
        (fillColMajor B (h.mem (h.next + 1))) B.rows
      if r.info ≠ 0 then .error .matrix_ill_conditioned
      else .ok { rows := B.rows, cols := B.cols, get := fun i j => r.b (i + j * B.rows) } := by
  simp only [solveSymMat, Heap.alloc, Heap.next_store, Heap.mem_store_self, Heap.mem_store_succ, Heap.mem_succ_store]

theorem solveSymMat_extends (h : Heap α) (S : Sym α) (B : Mat α) : h.Extends (solveSymMat L h S B).heap :=
  Heap.Extends.twoTemps h _ _ _ _

/-- the heap in which the symmetric vector forms stand after `?sysv`: the two temporaries, filled and then
    overwritten by its output `r` -/
def sysvHeap (h : Heap α) (S : Sym α) (b : Vec α) (r : SolveOut α) : Heap α :=
  (((h.alloc.1.store h.next (fillSym S (h.mem h.next))).alloc.1.store (h.next + 1) (fillVec b (h.mem (h.next + 1)))).store
    h.next r.a).store (h.next + 1) r.b

/-- `?sysv` first; when it fails, `solve(Array<2,T,false>(A), b)` on the original operands (fix F-21) -/
theorem solveSymVec_res (h : Heap α) (S : Sym α) (b : Vec α) :
    (solveSymVec L h S b).res =
      let r := L.sysv (uploOf S.orient) S.n 1 (fillSym S (h.mem h.next)) S.n (fillVec b (h.mem (h.next + 1))) b.n
      let h5 := sysvHeap h S b r
      if r.info ≠ 0 then (solveGenVec L (densify h5 S.toMat).1 (densify h5 S.toMat).2 b).res
      else .ok { n := b.n, get := r.b } := by
  simp only [solveSymVec, sysvHeap, Heap.alloc, Heap.next_store, Heap.mem_store_self, Heap.mem_store_succ,
    Heap.mem_succ_store, apply_ite Out.res]

theorem solveSymVec_extends (h : Heap α) (S : Sym α) (b : Vec α) : h.Extends (solveSymVec L h S b).heap :=
  have e := Heap.Extends.twoTemps h _ _ _ _
  Heap.Extends.ite (e.trans ((densify_extends _ _).trans (solveGenVec_extends L _ _ _))) e

theorem invGen_nonsquare (h : Heap α) (A : Mat α) (hns : A.rows ≠ A.cols) :
    invGen L h A = { heap := h, log := [], res := .error .invalid_operation } := by
  rw [invGen, if_pos hns]

theorem invGen_res (h : Heap α) (A : Mat α) (hsq : A.rows = A.cols) :
    (invGen L h A).res =
      let f := L.getrf A.rows (fillColMajor A (h.mem h.next)) A.rows
      let r := L.getri A.rows f.a A.rows f.ipiv
      if f.info ≠ 0 then .error .matrix_ill_conditioned
      else if r.info ≠ 0 then .error .matrix_ill_conditioned
      else .ok { rows := A.rows, cols := A.cols, get := fun i j => r.a (i + j * A.rows) } := by
  simp only [invGen, if_neg (not_not_intro hsq), Heap.alloc, Heap.mem_store_self, apply_ite Out.res]

theorem invGen_extends (h : Heap α) (A : Mat α) : h.Extends (invGen L h A).heap :=
  have e := ((Heap.Extends.refl h).alloc.store (Nat.le_refl _) _).store (Nat.le_refl _) _
  Heap.Extends.ite (Heap.Extends.refl h) (Heap.Extends.ite e (e.store (Nat.le_refl _) _))

theorem invSym_res (h : Heap α) (S : Sym α) :
    (invSym L h S).res =
      let f := L.sytrf (uploOf S.orient) S.n (fillSym S (h.mem h.next)) S.n
      let r := L.sytri (uploOf S.orient) S.n f.a S.n f.ipiv
      if f.info ≠ 0 then .error .matrix_ill_conditioned
      else if r.info ≠ 0 then .error .matrix_ill_conditioned
      else .ok (Sym.ofStorage S.orient S.n 0 S.n r.a) := by
  simp only [invSym, Heap.alloc, Heap.mem_store_self, apply_ite Out.res]

theorem invSym_extends (h : Heap α) (S : Sym α) : h.Extends (invSym L h S).heap :=
  have e := ((Heap.Extends.refl h).alloc.store (Nat.le_refl _) _).store (Nat.le_refl _) _
  Heap.Extends.ite e (e.store (Nat.le_refl _) _)

/-- Overload resolution of `solve(A, b)` as a case principle: the general and the symmetric form on objects, for
    every other pair the generic template (both operands evaluated into fresh dense objects, then the general form). -/
theorem solveVec_cases {motive : MatArg α → VecArg α → Out α (Vec α) → Prop} (h : Heap α)
    (gen : ∀ m v, motive (.dense m) (.obj v) (solveGenVec L h m v))
    (sym : ∀ s v, motive (.symm s) (.obj v) (solveSymVec L h s v))
    (tmpl : ∀ A b, motive A b
      (solveGenVec L (densifyVec (densify h A.mat).1 b.vec).1 (densify h A.mat).2 (densifyVec (densify h A.mat).1 b.vec).2))
    (A : MatArg α) (b : VecArg α) : motive A b (solveVec L h A b) :=
  match A, b with
  | .dense m, .obj v => gen m v
  | .symm s, .obj v => sym s v
  | .dense m, .expr v => tmpl (.dense m) (.expr v)
  | .symm s, .expr v => tmpl (.symm s) (.expr v)
  | .expr m, b => tmpl (.expr m) b

/-- As for the vector form; `solve(SymmMatrix, SymmMatrix)` evaluates `B` into a dense object first. -/
theorem solveMat_cases {motive : MatArg α → MatArg α → Out α (Mat α) → Prop} (h : Heap α)
    (gen : ∀ m b, motive (.dense m) (.dense b) (solveGenMat L h m b))
    (sym : ∀ s b, motive (.symm s) (.dense b) (solveSymMat L h s b))
    (symsym : ∀ s b, motive (.symm s) (.symm b) (solveSymMat L (densify h b.toMat).1 s (densify h b.toMat).2))
    (tmpl : ∀ A B, motive A B
      (solveGenMat L (densify (densify h A.mat).1 B.mat).1 (densify h A.mat).2 (densify (densify h A.mat).1 B.mat).2))
    (A B : MatArg α) : motive A B (solveMat L h A B) :=
  match A, B with
  | .dense m, .dense b => gen m b
  | .symm s, .dense b => sym s b
  | .symm s, .symm b => symsym s b
  | .dense m, .symm b => tmpl (.dense m) (.symm b)
  | .dense m, .expr b => tmpl (.dense m) (.expr b)
  | .symm s, .expr b => tmpl (.symm s) (.expr b)
  | .expr m, B => tmpl (.expr m) B

end EntryPoints

/-- The outcome `o` of an entry point started in heap `h`: a returned value satisfies `P`; when `sing` (the
    system is exactly singular) `matrix_ill_conditioned` is raised, otherwise a value is returned; no buffer
    of `h` has been written. -/
def Spec {ρ : Type} (P : ρ → Prop) (sing : Prop) (h : Heap α) (o : Out α ρ) : Prop :=
  (∀ r, o.res = .ok r → P r) ∧
  (sing → o.res = .error .matrix_ill_conditioned) ∧
  (¬ sing → ∃ r, o.res = .ok r) ∧
  h.Extends o.heap

section Spec
variable {ρ : Type} {P : ρ → Prop} {sing : Prop} {h : Heap α} {o : Out α ρ}

theorem Spec.congr {P' : ρ → Prop} {sing' : Prop} {h0 : Heap α}
    (hP : ∀ r, P r → P' r) (hs : sing ↔ sing') (hh : h0.Extends h) (s : Spec P sing h o) : Spec P' sing' h0 o :=
  ⟨fun r hr => hP r (s.1 r hr), fun x => s.2.1 (hs.2 x), fun x => s.2.2.1 (mt hs.1 x), hh.trans s.2.2.2⟩

theorem Spec.of_res_eq {h0 : Heap α} {o' : Out α ρ} (hr : o'.res = o.res) (he : h0.Extends o'.heap)
    (s : Spec P sing h o) : Spec P sing h0 o' :=
  ⟨fun r hr' => s.1 r (hr ▸ hr'), fun x => hr.trans (s.2.1 x), fun x => hr ▸ s.2.2.1 x, he⟩

theorem Spec.map {σ : Type} {Q : σ → Prop} {f : ρ → σ} (s : Spec (fun r => Q (f r)) sing h o) :
    Spec Q sing h (mapRes f o) := by
  obtain ⟨s1, s2, s3, s4⟩ := s
  refine ⟨fun R hR => ?_, fun hs => ?_, fun hs => ?_, s4⟩
  · simp only [mapRes] at hR
    split at hR
    · next r hr => injection hR with hR; subst hR; exact s1 r hr
    · cases hR
  · simp only [mapRes, s2 hs]
  · obtain ⟨R, hR⟩ := s3 hs
    exact ⟨f R, by simp only [mapRes, hR]⟩

end Spec

section Specs
variable [Zero α] [One α] [Add α] [Mul α]

def VecSpec (n : Nat) (M : Nat → Nat → α) (b : Vec α) (h : Heap α) (o : Out α (Vec α)) : Prop :=
  Spec (fun x => x.n = b.n ∧ ∀ i, i < n → sumTo n (fun j => M i j * x.get j) = b.get i) (Singular n M) h o

/-- matrix solve, with its four clauses spelled out; `matSpec_iff` is the bridge to `Spec` -/
def MatSpec (n : Nat) (M : Nat → Nat → α) (B : Mat α) (h : Heap α) (o : Out α (Mat α)) : Prop :=
  (∀ X, o.res = .ok X → X.rows = B.rows ∧ X.cols = B.cols ∧ IsSolution n B.cols M X.get B.get) ∧
  (Singular n M → o.res = .error .matrix_ill_conditioned) ∧
  (¬ Singular n M → ∃ X, o.res = .ok X) ∧
  h.Extends o.heap

theorem matSpec_iff {n : Nat} {M : Nat → Nat → α} {B : Mat α} {h : Heap α} {o : Out α (Mat α)} :
    MatSpec n M B h o ↔
      Spec (fun X => X.rows = B.rows ∧ X.cols = B.cols ∧ IsSolution n B.cols M X.get B.get) (Singular n M) h o :=
  Iff.rfl

/-- inversion; `ρ` is the result type, `get` its element function -/
def InvSpec {ρ : Type} (get : ρ → Nat → Nat → α) (n : Nat) (M : Nat → Nat → α) (h : Heap α) (o : Out α ρ) : Prop :=
  Spec (fun R => IsInverse n M (get R)) (Singular n M) h o

/-- the specification of a square system may be read off stand-ins for the operands, and in a smaller heap -/
theorem VecSpec.of_agrees {A D : Mat α} {b d : Vec α} {h h0 : Heap α} {o : Out α (Vec α)}
    (hA : D.Agrees A) (hd : d.Agrees b) (hsq : A.rows = A.cols) (hb : b.n = A.rows) (hh : h0.Extends h)
    (s : D.rows = D.cols → d.n = D.rows → VecSpec D.rows D.get d h o) : VecSpec A.rows A.get b h0 o := by
  have s := s (hA.square hsq) ((hd.1.trans hb).trans hA.1.symm)
  rw [hA.1] at s
  have hM := fun i j (hi : i < A.rows) (hj : j < A.rows) => hA.2.2 i j hi (hsq ▸ hj)
  refine Spec.congr (fun x e => ⟨e.1.trans hd.1, fun i hi => ?_⟩) (singular_iff_congr hM) hh s
  rw [← hd.2 i (hb ▸ hi), ← e.2 i hi]
  exact sumTo_congr (fun j hj => by rw [hM i j hi hj])

theorem MatSpec.of_agrees {A D B E : Mat α} {h h0 : Heap α} {o : Out α (Mat α)}
    (hA : D.Agrees A) (hE : E.Agrees B) (hsq : A.rows = A.cols) (hb : B.rows = A.rows) (hh : h0.Extends h)
    (s : D.rows = D.cols → E.rows = D.rows → MatSpec D.rows D.get E h o) : MatSpec A.rows A.get B h0 o := by
  have s := s (hA.square hsq) ((hE.1.trans hb).trans hA.1.symm)
  rw [hA.1] at s
  have hM := fun i j (hi : i < A.rows) (hj : j < A.rows) => hA.2.2 i j hi (hsq ▸ hj)
  exact matSpec_iff.2 (Spec.congr (fun _ e => ⟨e.1.trans hE.1, e.2.1.trans hE.2.1, hE.2.1 ▸ isSolution_congr hM
    (fun _ _ _ _ => rfl) (fun i k hi hk => hE.2.2 i k (hb ▸ hi) (hE.2.1 ▸ hk)) e.2.2⟩)
    (singular_iff_congr hM) hh (matSpec_iff.1 s))

theorem MatSpec.of_eq {n : Nat} {M : Nat → Nat → α} {B : Mat α} {h : Heap α} {o o' : Out α (Mat α)}
    (hr : o'.res = o.res) (hh : o'.heap = o.heap) (s : MatSpec n M B h o) : MatSpec n M B h o' :=
  matSpec_iff.2 (Spec.of_res_eq hr (hh ▸ s.2.2.2) (matSpec_iff.1 s))

/-- An entry point that raises exactly when the driver's `info` is non-zero: `info` tells singular from regular
    for the matrix `M'` the driver saw, which agrees with the operand `M`, and `info = 0` vouches for the value. -/
theorem Spec.of_info {ρ : Type} {P : ρ → Prop} {h : Heap α} {o : Out α ρ} {n : Nat} {M M' : Nat → Nat → α}
    {info : Int} {x : ρ} (hM : ∀ i j, i < n → j < n → M' i j = M i j)
    (hres : o.res = if info ≠ 0 then .error .matrix_ill_conditioned else .ok x)
    (hok : info = 0 → P x) (hsing : Singular n M' → 0 < info) (hreg : ¬ Singular n M' → info = 0)
    (hext : h.Extends o.heap) : Spec P (Singular n M) h o := by
  have hsing := fun hs => hsing ((singular_iff_congr hM).2 hs)
  have hreg := fun hs => hreg (mt (singular_iff_congr hM).1 hs)
  by_cases h0 : info = 0
  · rw [if_neg (not_not_intro h0)] at hres
    refine ⟨fun r hr => ?_, fun hs => absurd h0 (Int.ne_of_gt (hsing hs)), fun _ => ⟨x, hres⟩, hext⟩
    cases hres.symm.trans hr
    exact hok h0
  · rw [if_pos h0] at hres
    refine ⟨fun r hr => ?_, fun _ => hres, fun hs => absurd (hreg hs) h0, hext⟩
    cases hres.symm.trans hr

/-- Factorise, then invert from the factors: the second stage does not fail once the first has succeeded. -/
theorem Spec.of_two_infos {ρ : Type} {P : ρ → Prop} {h : Heap α} {o : Out α ρ} {n : Nat} {M M' : Nat → Nat → α}
    {info info' : Int} {x : ρ} (hM : ∀ i j, i < n → j < n → M' i j = M i j)
    (hres : o.res = if info ≠ 0 then .error .matrix_ill_conditioned
                    else if info' ≠ 0 then .error .matrix_ill_conditioned else .ok x)
    (hok : info = 0 → info' = 0 ∧ P x) (hsing : Singular n M' → 0 < info) (hreg : ¬ Singular n M' → info = 0)
    (hext : h.Extends o.heap) : Spec P (Singular n M) h o := by
  refine Spec.of_info hM (info := info) (x := x) ?_ (fun h0 => (hok h0).2) hsing hreg hext
  by_cases h0 : info = 0
  · rw [hres, if_neg (not_not_intro h0), if_neg (not_not_intro h0), if_neg (not_not_intro (hok h0).1)]
  · rw [hres, if_pos h0, if_pos h0]

theorem vec_of_isSolution {n ld : Nat} {M M' : Nat → Nat → α} {b : Vec α} {x old : Buf α}
    (hM : ∀ i j, i < n → j < n → M' i j = M i j) (hb : n ≤ b.n)
    (hs : IsSolution n 1 M' (geMat ld x) (geMat ld (fillVec b old))) (i : Nat) (hi : i < n) :
    sumTo n (fun j => M i j * x j) = b.get i := by
  rw [← fillVec_geMat b old ld (Nat.lt_of_lt_of_le hi hb), ← hs i hi 0 Nat.one_pos]
  exact sumTo_congr (fun j hj => by rw [hM i j hi hj]; simp only [geMat, Nat.zero_mul, Nat.add_zero])

variable (L : Impl α)

theorem solveGenVec_spec (hL : Contract L) (h : Heap α) (A : Mat α) (b : Vec α)
    (hsq : A.rows = A.cols) (hb : b.n = A.rows) :
    VecSpec A.rows A.get b h (solveGenVec L h A b) := by
  have hA := fun i j (hi : i < A.rows) (hj : j < A.rows) => fillColMajor_geMat A (h.mem h.next) hi (hsq ▸ hj)
  exact Spec.of_info hA (solveGenVec_res L h A b)
    (fun h0 => ⟨rfl, vec_of_isSolution hA (Nat.le_of_eq hb.symm)
      (hL.gesv_ok _ _ _ _ _ _ (Nat.le_refl _) (Nat.le_refl _) h0)⟩)
    (hL.gesv_sing _ _ _ _ _ _ (Nat.le_refl _) (Nat.le_refl _))
    (hL.gesv_reg _ _ _ _ _ _ (Nat.le_refl _) (Nat.le_refl _))
    (solveGenVec_extends L h A b)

theorem solveGenMat_spec (hL : Contract L) (h : Heap α) (A B : Mat α)
    (hsq : A.rows = A.cols) (hb : B.rows = A.rows) :
    MatSpec A.rows A.get B h (solveGenMat L h A B) := by
  have hA := fun i j (hi : i < A.rows) (hj : j < A.rows) => fillColMajor_geMat A (h.mem h.next) hi (hsq ▸ hj)
  have hB : ∀ i k, i < A.rows → k < B.cols →
      geMat A.rows (fillColMajor B (h.mem (h.next + 1))) i k = B.get i k :=
    fun i k hi hk => by rw [← hb]; exact fillColMajor_geMat B _ (hb ▸ hi) hk
  exact matSpec_iff.2 <| Spec.of_info hA (solveGenMat_res L h A B)
    (fun h0 => ⟨rfl, rfl, isSolution_congr hA (fun j k _ _ => by simp only [geMat, hb]) hB
      (hL.gesv_ok _ _ _ _ _ _ (Nat.le_refl _) (Nat.le_refl _) h0)⟩)
    (hL.gesv_sing _ _ _ _ _ _ (Nat.le_refl _) (Nat.le_refl _))
    (hL.gesv_reg _ _ _ _ _ _ (Nat.le_refl _) (Nat.le_refl _))
    (solveGenMat_extends L h A B)

theorem solveSymMat_spec (hL : Contract L) (h : Heap α) (S : Sym α) (B : Mat α)
    (hsym : ∀ i j, S.get i j = S.get j i) (hb : B.rows = S.n) :
    MatSpec S.n S.get B h (solveSymMat L h S B) := by
  have hA := fun i j => fillSym_syMat S (h.mem h.next) hsym (i := i) (j := j)
  have hB := fun i k (hi : i < S.n) (hk : k < B.cols) => fillColMajor_geMat B (h.mem (h.next + 1)) (hb ▸ hi) hk
  have hle : S.n ≤ B.rows := Nat.le_of_eq hb.symm
  exact matSpec_iff.2 <| Spec.of_info hA (solveSymMat_res L h S B)
    (fun h0 => ⟨rfl, rfl, isSolution_congr hA (fun _ _ _ _ => rfl) hB
      (hL.sysv_ok _ _ _ _ _ _ _ (Nat.le_refl _) hle h0)⟩)
    (hL.sysv_sing _ _ _ _ _ _ _ (Nat.le_refl _) hle)
    (hL.sysv_reg _ _ _ _ _ _ _ (Nat.le_refl _) hle)
    (solveSymMat_extends L h S B)

theorem solveSymVec_spec (hL : Contract L) (h : Heap α) (S : Sym α) (b : Vec α)
    (hsym : ∀ i j, S.get i j = S.get j i) (hb : b.n = S.n) :
    VecSpec S.n S.get b h (solveSymVec L h S b) := by
  have hA := fun i j => fillSym_syMat S (h.mem h.next) hsym (i := i) (j := j)
  have hle : S.n ≤ b.n := Nat.le_of_eq hb.symm
  have hres := solveSymVec_res L h S b
  dsimp only at hres
  split at hres
  · -- the second attempt: the general form on a dense copy of `S`
    exact Spec.of_res_eq hres (solveSymVec_extends L h S b)
      (VecSpec.of_agrees (densify_agrees _ S.toMat) (Vec.Agrees.refl b) S.toMat_square hb (Heap.Extends.refl _)
        (solveGenVec_spec L hL _ _ b))
  · next h0 =>
    have h0 := Decidable.not_not.mp h0
    exact Spec.of_info hA (hres.trans (if_neg (not_not_intro h0)).symm)
      (fun h0 => ⟨rfl, vec_of_isSolution hA hle (hL.sysv_ok _ _ _ _ _ _ _ (Nat.le_refl _) hle h0)⟩)
      (hL.sysv_sing _ _ _ _ _ _ _ (Nat.le_refl _) hle)
      (hL.sysv_reg _ _ _ _ _ _ _ (Nat.le_refl _) hle)
      (solveSymVec_extends L h S b)

theorem invGen_spec (hL : Contract L) (h : Heap α) (A : Mat α) (hsq : A.rows = A.cols) :
    InvSpec Mat.get A.rows A.get h (invGen L h A) := by
  have hA := fun i j (hi : i < A.rows) (hj : j < A.rows) => fillColMajor_geMat A (h.mem h.next) hi (hsq ▸ hj)
  exact Spec.of_two_infos hA (invGen_res L h A hsq)
    (fun h0 => (hL.getri_ok _ _ _ (Nat.le_refl _) h0).imp id (isInverse_congr hA (fun _ _ _ _ => rfl)))
    (hL.getrf_sing _ _ _ (Nat.le_refl _))
    (hL.getrf_reg _ _ _ (Nat.le_refl _))
    (invGen_extends L h A)

theorem invSym_spec (hL : Contract L) (h : Heap α) (S : Sym α) (hsym : ∀ i j, S.get i j = S.get j i) :
    InvSpec Sym.get S.n S.get h (invSym L h S) := by
  have hA := fun i j => fillSym_syMat S (h.mem h.next) hsym (i := i) (j := j)
  exact Spec.of_two_infos hA (invSym_res L h S)
    (fun h0 => (hL.sytri_ok _ _ _ _ (Nat.le_refl _) h0).imp id
      (isInverse_congr hA (fun i j _ _ => (ofStorage_syMat S.orient S.n _ i j).symm)))
    (hL.sytrf_sing _ _ _ _ (Nat.le_refl _))
    (hL.sytrf_reg _ _ _ _ (Nat.le_refl _))
    (invSym_extends L h S)

/-- well-formed rank-2 argument: a `SymmMatrix` object is symmetric (true by construction, `Sym.ofStorage_symm`) -/
def MatArg.WF : MatArg α → Prop
  | .symm s => ∀ i j, s.get i j = s.get j i
  | _ => True

theorem solveVec_spec (hL : Contract L) (h : Heap α) (A : MatArg α) (b : VecArg α) (hwf : A.WF)
    (hsq : A.mat.rows = A.mat.cols) (hb : b.vec.n = A.mat.rows) :
    VecSpec A.mat.rows A.mat.get b.vec h (solveVec L h A b) := by
  refine solveVec_cases L h (A := A) (b := b)
    (motive := fun A b o => A.WF → A.mat.rows = A.mat.cols → b.vec.n = A.mat.rows → VecSpec A.mat.rows A.mat.get b.vec h o)
    (fun m v _ => solveGenVec_spec L hL h m v) (fun s v hwf _ => solveSymVec_spec L hL h s v hwf)
    (fun A b _ hsq hb => ?_) hwf hsq hb
  -- the template: the general form on dense copies, which agree with the operands on the index range
  exact VecSpec.of_agrees (densify_agrees h A.mat) (densifyVec_agrees _ b.vec) hsq hb
    ((densify_extends h A.mat).trans (densifyVec_extends _ b.vec)) (solveGenVec_spec L hL _ _ _)

theorem solveMat_spec (hL : Contract L) (h : Heap α) (A B : MatArg α) (hwf : A.WF)
    (hsq : A.mat.rows = A.mat.cols) (hb : B.mat.rows = A.mat.rows) :
    MatSpec A.mat.rows A.mat.get B.mat h (solveMat L h A B) := by
  refine solveMat_cases L h (A := A) (B := B)
    (motive := fun A B o => A.WF → A.mat.rows = A.mat.cols → B.mat.rows = A.mat.rows →
      MatSpec A.mat.rows A.mat.get B.mat h o)
    (fun m b _ => solveGenMat_spec L hL h m b) (fun s b hwf _ => solveSymMat_spec L hL h s b hwf)
    (fun s b hwf _ hb => ?_) (fun A B _ hsq hb => ?_) hwf hsq hb
  · exact MatSpec.of_agrees (Mat.Agrees.refl s.toMat) (densify_agrees h b.toMat) s.toMat_square hb
      (densify_extends h b.toMat) (fun _ => solveSymMat_spec L hL _ s _ hwf)
  · exact MatSpec.of_agrees (densify_agrees h A.mat) (densify_agrees _ B.mat) hsq hb
      ((densify_extends h A.mat).trans (densify_extends _ B.mat)) (solveGenMat_spec L hL _ _ _)

theorem inv_spec (hL : Contract L) (h : Heap α) (A : MatArg α) (hwf : A.WF) (hsq : A.mat.rows = A.mat.cols) :
    InvSpec (fun R => R.mat.get) A.mat.rows A.mat.get h (inv L h A) := by
  cases A with
  | dense m => exact Spec.map (invGen_spec L hL h m hsq)
  | symm s => exact Spec.map (invSym_spec L hL h s hwf)
  | expr m =>
    have hm := fun i j (hi : i < m.rows) (hj : j < m.rows) => densify_get h m hi (hsq ▸ hj)
    exact Spec.map (Spec.congr (fun _ => isInverse_congr hm (fun _ _ _ _ => rfl)) (singular_iff_congr hm)
      (densify_extends h m) (invGen_spec L hL _ _ ((densify_agrees h m).square hsq)))

end Specs

end Adept.Solve
