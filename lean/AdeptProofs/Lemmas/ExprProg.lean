import AdeptProofs.Lemmas.ExprTree
import AdeptProofs.Lemmas.Tape
/-!
C01 T4–T6: straight-line programs.  A program is a list of recording statements already resolved to gradient
indices (the resolution handle ↦ index is the allocator's business, M3/C08, and is compared with the implementation
index by index in the correspondence runs); the environment is indexed by gradient index, which is what makes slot
reuse harmless: a (re)initialising statement overwrites the slot.
-/
namespace Adept.Expr
open Adept Real Adept.Tape

/-- recording statements whose derivative content is determined by the program itself -/
inductive PStmt
  | assign (lhs : Nat) (e : Node ℝ)      -- x = expression / copy / compound (unpacked) / construct from expression
  | passive (lhs : Nat) (c : ℝ)          -- x = passive value / construct from passive
  | shift (lhs : Nat) (c : ℝ)            -- x += c, x -= c with a passive c: the value changes, nothing is recorded

def updF (g : Nat → ℝ) (i : Nat) (v : ℝ) : Nat → ℝ := fun j => if j = i then v else g j

theorem updF_eq_upd (g : Nat → ℝ) (i : Nat) (v : ℝ) : updF g i v = upd g i v := rfl

/-- the content `PStmt.record` gives the uninitialised `ScratchVector`; any other would do (`store_spec`) -/
def scr0 : Scratch ℝ := fun _ => 0

/-- effect of a statement on the values (indexed by gradient index) -/
noncomputable def PStmt.exec : PStmt → (Nat → ℝ) → (Nat → ℝ)
  | .assign lhs e, env => updF env lhs (e.rebind env).eval
  | .passive lhs c, env => updF env lhs c
  | .shift lhs c, env => updF env lhs (env lhs + c)

/-- what the statement appends to the tape (`none`: nothing is recorded) -/
noncomputable def PStmt.record : PStmt → (Nat → ℝ) → Option (Stmt ℝ)
  | .assign lhs e, env => some ⟨lhs, ((e.rebind env).valueAndGradient scr0).2⟩
  | .passive lhs _, _ => some ⟨lhs, []⟩
  | .shift _ _, _ => none

noncomputable def run : List PStmt → (Nat → ℝ) → (Nat → ℝ)
  | [], env => env
  | st :: rest, env => run rest (st.exec env)

/-- the tape recorded by running the program from `env` -/
noncomputable def tapeOf : List PStmt → (Nat → ℝ) → List (Stmt ℝ)
  | [], _ => []
  | st :: rest, env => (st.record env).toList ++ tapeOf rest (st.exec env)

/-- every statement is executed inside the domains of its functions -/
def ProgDom : List PStmt → (Nat → ℝ) → Prop
  | [], _ => True
  | .assign lhs e :: rest, env =>
      (e.rebind env).wf = true ∧ (e.rebind env).dom ∧ ProgDom rest ((PStmt.assign lhs e).exec env)
  | st :: rest, env => ProgDom rest (st.exec env)

/-- tangent-linear sweep on functions (`rd_fwd`: it is the list version `fwd` of `AdeptModel/Tape.lean` read slot by slot) -/
def fwdStepF (s : Stmt ℝ) (g : Nat → ℝ) : Nat → ℝ := updF g s.lhs (dotOps s.ops g)
def fwdF (t : List (Stmt ℝ)) (g : Nat → ℝ) : Nat → ℝ := t.foldl (fun g s => fwdStepF s g) g

theorem fwdF_cons (s : Stmt ℝ) (t : List (Stmt ℝ)) (g : Nat → ℝ) : fwdF (s :: t) g = fwdF t (fwdStepF s g) := rfl
theorem fwdF_append (a b : List (Stmt ℝ)) (g : Nat → ℝ) : fwdF (a ++ b) g = fwdF b (fwdF a g) := by
  simp [fwdF, List.foldl_append]

/-- **T6** (statement level): the value a recording statement stores is the plain evaluation of its right-hand side -/
theorem valueAndGradient_fst (e : Node ℝ) (init : Scratch ℝ) : (e.valueAndGradient init).1 = e.eval := by
  unfold Node.valueAndGradient; exact (store_spec e 0 init).1

theorem valueAndGradient_snd (e : Node ℝ) (init : Scratch ℝ) :
    (e.valueAndGradient init).2 = e.grad 0 (e.store 0 init).2 none := rfl

theorem updF_self (env : Nat → ℝ) (x : Nat) : updF env x (env x) = env := by
  funext j
  rw [updF_eq_upd]
  by_cases h : j = x
  · rw [h, upd_same]
  · rw [upd_other _ _ _ _ h]

theorem updF_hasDerivAt {g : ℝ → Nat → ℝ} {g' : Nat → ℝ} {v : ℝ → ℝ} {v' t₀ : ℝ}
    (hg : ∀ i, HasDerivAt (fun t => g t i) (g' i) t₀) (hv : HasDerivAt v v' t₀) (lhs i : Nat) :
    HasDerivAt (fun t => updF (g t) lhs (v t) i) (updF g' lhs v' i) t₀ := by
  simp only [updF_eq_upd]
  by_cases h : i = lhs
  · simp only [h, upd_same]
    exact hv
  · simp only [upd_other _ _ _ _ h]
    exact hg i

theorem exec_hasDerivAt (st : PStmt) (γ : ℝ → Nat → ℝ) (γ' : Nat → ℝ) (t₀ : ℝ)
    (hγ : ∀ i, HasDerivAt (fun t => γ t i) (γ' i) t₀)
    (hd : ∀ lhs e, st = .assign lhs e → (e.rebind (γ t₀)).wf = true ∧ (e.rebind (γ t₀)).dom) :
    ∀ i, HasDerivAt (fun t => st.exec (γ t) i) (fwdF (st.record (γ t₀)).toList γ' i) t₀ := by
  intro i
  cases st with
  | assign lhs e =>
    obtain ⟨hwf, hdom⟩ := hd lhs e rfl
    exact updF_hasDerivAt hγ (grad_hasDerivAt γ γ' t₀ hγ e 0 _ hwf hdom (store_ScrOK (e.rebind (γ t₀)) 0 scr0)) lhs i
  | passive lhs c => exact updF_hasDerivAt hγ (hasDerivAt_const t₀ c) lhs i
  | shift lhs c =>
    -- nothing is recorded: the derivative of slot `lhs` stays what it was
    exact (updF_hasDerivAt hγ ((hγ lhs).add_const c) lhs i).congr_deriv (congrFun (updF_self γ' lhs) i)

/-- **T4**: along any differentiable curve of initial values, the final environment of a straight-line program is
    differentiable and its derivative is the tangent-linear sweep of the recorded tape applied to the curve's velocity -/
theorem program_tangent (P : List PStmt) : ∀ (γ : ℝ → Nat → ℝ) (γ' : Nat → ℝ) (t₀ : ℝ),
    (∀ i, HasDerivAt (fun t => γ t i) (γ' i) t₀) → ProgDom P (γ t₀) →
    ∀ i, HasDerivAt (fun t => run P (γ t) i) (fwdF (tapeOf P (γ t₀)) γ' i) t₀ := by
  induction P with
  | nil => intro γ γ' t₀ hγ _ i; exact hγ i
  | cons st rest ih =>
    intro γ γ' t₀ hγ hdom i
    have hstep := exec_hasDerivAt st γ γ' t₀ hγ (by
      intro lhs e he; subst he; exact ⟨hdom.1, hdom.2.1⟩)
    have hrest : ProgDom rest (st.exec (γ t₀)) := by
      cases st with
      | assign lhs e => exact hdom.2.2
      | passive lhs c => exact hdom
      | shift lhs c => exact hdom
    have := ih (fun t => st.exec (γ t)) (fwdF (st.record (γ t₀)).toList γ') t₀ hstep hrest i
    simp only [run, tapeOf, fwdF_append]
    exact this

theorem rd_fwdStep (s : Stmt ℝ) (g : Vec ℝ) (hl : s.lhs < g.length) :
    rd (fwdStep s g) = fwdStepF s (rd g) := by
  funext j
  unfold fwdStep fwdStepF updF
  rw [rd_set_lt g s.lhs j _ hl, rhsVal_eq_sum]
  rfl

theorem rd_fwd (N : Nat) (t : List (Stmt ℝ)) : ∀ (g : Vec ℝ), WF t N → g.length = N → rd (fwd t g) = fwdF t (rd g) := by
  induction t with
  | nil => intro g _ _; rfl
  | cons s t ih =>
    intro g hwf hg
    obtain ⟨⟨hl, _⟩, ht'⟩ := WF_cons hwf
    rw [fwd_cons, fwdF_cons, ih (fwdStep s g) ht' (by rw [fwdStep_length]; exact hg), rd_fwdStep s g (by omega)]

theorem rd_unit (N x : Nat) (hx : x < N) : rd (unit N x : Vec ℝ) = updF (fun _ => 0) x 1 := by
  funext i
  unfold unit updF
  rw [rd_set_lt _ x i 1 (by simpa using hx), rd_replicate_zero]

/-- **T5**: seeding output slot `y` with 1 and running the adjoint sweep over the recorded tape leaves at input slot `x`
    the partial derivative of the final value of `y` with respect to the initial value of `x`. -/
theorem adjoint_is_gradient (P : List PStmt) (env₀ : Nat → ℝ) (N x y : Nat) (hx : x < N) (hy : y < N)
    (hwf : WF (tapeOf P env₀) N) (hdom : ProgDom P env₀) :
    HasDerivAt (fun τ => run P (updF env₀ x τ) y) (jacEntryRev (tapeOf P env₀) N x y) (env₀ x) := by
  have h := program_tangent P (fun τ => updF env₀ x τ) (updF (fun _ => 0) x 1) (env₀ x)
    (updF_hasDerivAt (g := fun _ => env₀) (fun i => hasDerivAt_const _ (env₀ i)) (hasDerivAt_id' _) x) (by rw [updF_self]; exact hdom) y
  rw [updF_self] at h
  rw [← jac_fwd_eq_rev N _ x y hwf hx hy]
  unfold jacEntryFwd
  rw [rd_fwd N _ _ hwf (unit_length N x), rd_unit N x hx]
  exact h

/-! ### the statement forms of `AdeptModel/Expr.lean` (`St`) record what `PStmt.record` says -/

/-- `x op= expression` is `x = x op expression` -/
theorem compound_is_assign (s : St ℝ) (h : Nat) (x : Var ℝ) (op : BOp) (e : Node ℝ) (init : Scratch ℝ) :
    s.compound h x op e init = s.assign h x (.bin op (.active x.idx x.val) e) init := rfl

/-- `x = passive`: an empty statement for the slot of `x` -/
theorem assignPassive_records (s : St ℝ) (h : Nat) (x : Var ℝ) (c : ℝ) (hp : s.pend = []) :
    (s.assignPassive h x c).tape = s.tape ++ [⟨x.idx, []⟩] := by
  simp [St.assignPassive, St.pushLhs, St.setVar, hp]

/-- `x += passive`, `x -= passive` record nothing -/
theorem compoundPassiveAddSub_records (s : St ℝ) (h : Nat) (x : Var ℝ) (sub : Bool) (c : ℝ) :
    (s.compoundPassiveAddSub h x sub c).tape = s.tape := by
  simp [St.compoundPassiveAddSub, St.setVar]

end Adept.Expr
