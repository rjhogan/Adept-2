import AdeptProofs.Lemmas.RecBuf
import AdeptModel.RecBufSites
/-!
The recording sites keep the reservation discipline, for all sizes.  Two shapes cover every site: a reservation followed
by a stream whose pushes it covers (`reserved_ok`, the pushes counted block by block with `flatten_bound`), and a
concatenation of pieces that each reserve for themselves (`disciplined_append_self`).  Core Lean only.
-/
namespace Adept.RecBuf
open Sites

theorem disciplined_append (a b : List Ev) (f : Nat) :
    disciplined f (a ++ b) = (disciplined f a && disciplined (a.foldl credit f) b) := by
  induction a generalizing f with
  | nil => rfl
  | cons e es ih => rw [List.cons_append, disciplined_cons, disciplined_cons, ih, List.foldl_cons, Bool.and_assoc]

theorem disciplined_append_self (a b : List Ev) (f : Nat) (ha : disciplined f a = true) (hb : disciplined 0 b = true) :
    disciplined f (a ++ b) = true := by
  rw [disciplined_append, ha, Bool.true_and]
  exact disciplined_mono b 0 _ (Nat.zero_le _) hb

theorem disciplined_flatten_self (blocks : List (List Ev)) (f : Nat) (h : ∀ b ∈ blocks, disciplined 0 b = true) :
    disciplined f blocks.flatten = true := by
  induction blocks generalizing f with
  | nil => rfl
  | cons b bs ih =>
    exact disciplined_append_self b _ f (disciplined_mono b 0 f (Nat.zero_le _) (h b (List.mem_cons_self ..)))
      (ih 0 fun x hx => h x (List.mem_cons_of_mem _ hx))

theorem disciplined_insert (es₁ es₂ : List Ev) (e : Ev) (f : Nat) (hn : needs e = 0) (hc : ∀ g, g ≤ credit g e)
    (hd : disciplined f (es₁ ++ es₂) = true) : disciplined f (es₁ ++ e :: es₂) = true := by
  rw [disciplined_append, Bool.and_eq_true] at hd ⊢
  rw [disciplined_cons, hn]
  exact ⟨hd.1, disciplined_mono es₂ _ _ (hc _) hd.2⟩

theorem pushCount_cons (e : Ev) (es : List Ev) : pushCount (e :: es) = pushCount es + opsOf e := by
  cases e <;> rfl

theorem noIdx_cons {e : Ev} {es : List Ev} (h : noIdx (e :: es) = true) : needs e = opsOf e ∧ noIdx es = true := by
  cases e with
  | pushIdx _ _ => exact absurd h Bool.false_ne_true
  | _ => exact ⟨rfl, h⟩

theorem noIdx_append (a b : List Ev) : noIdx (a ++ b) = (noIdx a && noIdx b) := by
  induction a with
  | nil => rfl
  | cons e es ih => cases e <;> simp [noIdx, ih]

theorem pushCount_append (a b : List Ev) : pushCount (a ++ b) = pushCount a + pushCount b := by
  induction a with
  | nil => simp [pushCount]
  | cons e es ih => rw [List.cons_append, pushCount_cons, pushCount_cons, ih]; omega

theorem disciplined_of_pushCount (es : List Ev) (f : Nat) (hn : noIdx es = true) (hc : pushCount es ≤ f) :
    disciplined f es = true := by
  induction es generalizing f with
  | nil => rfl
  | cons e es ih =>
    obtain ⟨he, hn'⟩ := noIdx_cons hn
    rw [pushCount_cons] at hc
    rw [disciplined_cons, he, Bool.and_eq_true, decide_eq_true_eq]
    exact ⟨by omega, ih _ hn' (Nat.le_trans (by omega) (credit_ge f e))⟩

theorem reserved_ok (r f : Nat) (es : List Ev) (hn : noIdx es = true) (hc : pushCount es ≤ r) :
    disciplined f (Ev.check r :: es) = true :=
  disciplined_of_pushCount es _ hn (Nat.le_trans hc (Nat.le_max_right f r))

theorem flatten_bound (blocks : List (List Ev)) (c : Nat)
    (h : ∀ b ∈ blocks, noIdx b = true ∧ pushCount b ≤ c) :
    noIdx blocks.flatten = true ∧ pushCount blocks.flatten ≤ c * blocks.length := by
  induction blocks with
  | nil => exact ⟨rfl, Nat.zero_le _⟩
  | cons b bs ih =>
    obtain ⟨h1, h2⟩ := h b (List.mem_cons_self ..)
    obtain ⟨i1, i2⟩ := ih fun x hx => h x (List.mem_cons_of_mem _ hx)
    rw [List.flatten_cons, noIdx_append, pushCount_append, List.length_cons, Nat.mul_succ, h1, i1]
    exact ⟨rfl, by omega⟩

theorem pushes_count (k : Nat) : noIdx (List.replicate k Ev.push) = true ∧ pushCount (List.replicate k Ev.push) = k := by
  induction k with
  | zero => exact ⟨rfl, rfl⟩
  | succ k ih => exact ⟨ih.1, congrArg (· + 1) ih.2⟩

theorem stmtEvents_count (n : Nat) : noIdx (stmtEvents n) = true ∧ pushCount (stmtEvents n) = n := by
  unfold stmtEvents
  rw [noIdx_append, pushCount_append, (pushes_count n).1, (pushes_count n).2]
  exact ⟨rfl, rfl⟩

/-! What the regenerated reservation expressions (`Generated/ReserveSites.lean`) come to at the arguments each site passes, by
unfolding alone: after an edit of a `check_space(…)` in the source the equation of that site is the first thing that fails. -/

theorem sites_scalar (nA : Nat) :
    siteActiveCtor nA = siteScalarAssign nA nA ∧ siteActiveAssign nA = siteScalarAssign nA nA ∧
    siteActiveRefAssign nA = siteScalarAssign nA nA :=
  ⟨rfl, rfl, rfl⟩

theorem sites_copy :
    siteActiveCopy1 = siteScalarAssign 1 1 ∧ siteActiveCopy2 = siteScalarAssign 1 1 ∧
    siteActiveRefCopy1 = siteScalarAssign 1 1 ∧ siteActiveRefCopy2 = siteScalarAssign 1 1 ∧
    siteActiveElemCtor = siteScalarAssign 1 1 :=
  ⟨rfl, rfl, rfl, rfl, rfl⟩

theorem sites_addDep (n k : Nat) :
    siteActiveAddDep n k = siteAddDep n k ∧ siteActiveRefAddDep n k = siteAddDep n k ∧
    siteActiveConstRefAddDep n k = siteAddDep n k ∧ siteStackAddDep k = siteAddDep 1 k :=
  ⟨rfl, rfl, rfl, rfl⟩

theorem sites_appendDep (n k : Nat) :
    siteActiveAppendDep n k = siteAppendDep n k ∧ siteActiveRefAppendDep n k = siteAppendDep n k ∧
    siteActiveConstRefAppendDep n k = siteAppendDep n k ∧ siteStackAppendDep k = siteAppendDep 1 k ∧
    sitePushDep n = siteAppendDep n n :=
  ⟨rfl, rfl, rfl, rfl, rfl⟩

theorem sites_arrayAssign (nA size : Nat) :
    siteArrayAssignArray nA size = siteArrayAssign (nA * size) nA size ∧
    siteArrayAssignFixed nA size = siteArrayAssign (nA * size) nA size ∧
    siteArrayAssignSpecial nA size = siteArrayAssign (nA * size) nA size ∧
    siteIndexedAssign nA size = siteArrayAssign (nA * size) nA size ∧
    siteDiagVectorUpper nA size = siteArrayAssign (nA * size) nA size ∧
    siteDiagVectorLower nA size = siteArrayAssign (nA * size) nA size :=
  ⟨rfl, rfl, rfl, rfl, rfl, rfl⟩

theorem sites_fromScalar (size stored : Nat) :
    siteArrayFromScalarArray size = siteArrayFromScalar size size ∧
    siteArrayFromScalarFixed size = siteArrayFromScalar size size ∧
    siteIndexedFromScalar size = siteArrayFromScalar size size ∧
    siteSpecialFromScalar size stored = Ev.check size :: (List.replicate stored (stmtEvents 1)).flatten :=
  ⟨rfl, rfl, rfl, rfl⟩

theorem sites_conditional (nA : Nat) (mask : List Bool) :
    siteConditionalArray nA mask = siteConditional (nA * mask.length) nA mask ∧
    siteConditionalFixed nA mask = siteConditional (nA * mask.length) nA mask :=
  ⟨rfl, rfl⟩

theorem reduce_reservations (nA n strips extra finish : Nat) :
    reduce_0 nA 0 n 0 0 extra 0 = (nA + extra) * n ∧
    reduce_1 nA 0 n 0 strips extra finish = (nA + extra) * n + finish * strips :=
  ⟨rfl, rfl⟩


theorem scalarAssign_ok (nA f : Nat) : disciplined f (siteScalarAssign nA nA) = true :=
  reserved_ok nA f _ (stmtEvents_count nA).1 (Nat.le_of_eq (stmtEvents_count nA).2)

theorem addDep_ok (n k f : Nat) (h : k ≤ n) : disciplined f (siteAddDep n k) = true :=
  reserved_ok n f _ (stmtEvents_count k).1 (by rw [(stmtEvents_count k).2]; exact h)

theorem appendDep_ok (n k f : Nat) (h : k ≤ n) : disciplined f (siteAppendDep n k) = true :=
  reserved_ok n f _ (pushes_count k).1 (by rw [(pushes_count k).2]; exact h)

/-- every array statement and reduction has this shape -/
theorem reserved_blocks_ok (r c f : Nat) (blocks : List (List Ev)) (tail : List Ev)
    (h : ∀ s ∈ blocks, noIdx s = true ∧ pushCount s ≤ c) (hr : c * blocks.length ≤ r)
    (ht : disciplined 0 tail = true) : disciplined f (Ev.check r :: (blocks.flatten ++ tail)) = true := by
  obtain ⟨h1, h2⟩ := flatten_bound blocks c h
  exact disciplined_append_self (Ev.check r :: blocks.flatten) tail f (reserved_ok r f _ h1 (Nat.le_trans h2 hr)) ht

theorem stmts_ok (r n size f : Nat) (h : n * size ≤ r) :
    disciplined f (Ev.check r :: (List.replicate size (stmtEvents n)).flatten) = true := by
  have := reserved_blocks_ok r n f (List.replicate size (stmtEvents n)) []
    (fun s hs => by rw [List.eq_of_mem_replicate hs, (stmtEvents_count n).2]; exact ⟨(stmtEvents_count n).1, Nat.le_refl _⟩)
    (by rw [List.length_replicate]; exact h) rfl
  rwa [List.append_nil] at this

theorem arrayAssign_ok (nA size f : Nat) : disciplined f (siteArrayAssign (nA * size) nA size) = true :=
  stmts_ok _ nA size f (Nat.le_refl _)

theorem arrayFromScalar_ok (size f : Nat) : disciplined f (siteArrayFromScalar size size) = true :=
  stmts_ok _ 1 size f (by omega)

theorem conditional_ok (nA f : Nat) (mask : List Bool) :
    disciplined f (siteConditional (nA * mask.length) nA mask) = true := by
  have := reserved_blocks_ok (nA * mask.length) nA f (mask.map fun m => if m then stmtEvents nA else []) []
    (fun s hs => by
      obtain ⟨m, _, rfl⟩ := List.mem_map.1 hs
      cases m
      · exact ⟨rfl, Nat.zero_le _⟩
      · exact ⟨(stmtEvents_count nA).1, Nat.le_of_eq (stmtEvents_count nA).2⟩)
    (by rw [List.length_map]; exact Nat.le_refl _) rfl
  rwa [List.append_nil] at this

theorem pushDep_ok (n f : Nat) : disciplined f (sitePushDep n) = true := by
  rw [(sites_appendDep n n).2.2.2.2]
  exact appendDep_ok n n f (Nat.le_refl _)

theorem sites_matmul (elems n dim ld ud : Nat) (l r : Bool) :
    siteMatmul elems n l r = (List.replicate elems (siteMatmulElem n l r)).flatten ∧
    siteMatmulBandVec dim ld ud
      = ((List.range dim).map fun i => sitePushDep (bandRowCount dim ld ud i) ++ [Ev.lhs]).flatten ∧
    siteMatmulElem n l r = (if l then sitePushDep n else []) ++ (if r then sitePushDep n else []) ++ [Ev.lhs] :=
  ⟨rfl, rfl, rfl⟩

theorem matmulElem_ok (n : Nat) (l r : Bool) : disciplined 0 (siteMatmulElem n l r) = true := by
  rw [(sites_matmul 0 n 0 0 0 l r).2.2]
  have hp (a : Bool) : disciplined 0 (if a then sitePushDep n else []) = true := by
    cases a
    · rfl
    · exact pushDep_ok n 0
  exact disciplined_append_self _ _ 0 (disciplined_append_self _ _ 0 (hp l) (hp r)) rfl

end Adept.RecBuf
