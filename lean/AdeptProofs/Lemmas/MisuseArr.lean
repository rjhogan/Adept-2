import AdeptModel.Misuse
import AdeptProofs.Lemmas.Basic
/-!
Misuse of arrays (`AdeptModel/Misuse.lean`).  A failing operation other than `<<` and `either_or` hands back the pool it was
given, because every branch of `step` ends in one of a few forms that do (`Safe`, `step_safe`); and the stores of the `<<`
allocators, modelled as faulting outside the allocated memory, never fault on a well-formed target (`al1Run_err`, `al2Run_err`).
-/
namespace Adept.Misuse

def Res.failed : Res → Bool
  | .ok _ => false
  | .error _ => true

def dropped (s : State) (o : Op) : Bool := (step s o).2.failed && decide ((step s o).1 = s)

def run (s : State) : List Op → State × List Res
  | [] => (s, [])
  | o :: os =>
    let r := step s o
    let rest := run r.1 os
    (rest.1, r.2 :: rest.2)

def runKept (s : State) : List Op → State × List Res
  | [] => (s, [])
  | o :: os =>
    let r := step s o
    let rest := runKept r.1 os
    if dropped s o then rest else (rest.1, r.2 :: rest.2)

def dropFailed (s : State) : List Op → List Op
  | [] => []
  | o :: os => if dropped s o then dropFailed (step s o).1 os else o :: dropFailed (step s o).1 os

theorem dropped_state (s : State) (o : Op) (h : dropped s o = true) : (step s o).1 = s := by
  unfold dropped at h
  simp only [Bool.and_eq_true, decide_eq_true_eq] at h
  exact h.2

theorem commit_fail (s : State) (k : Nat) (r : Except Err Arr) (e : Err) (h : (commit s k r).2 = .error e) :
    commit s k r = (s, .error e) := by
  cases r with
  | ok a => cases h
  | error e' => cases h; rfl

theorem viewRes_state (s : State) (r : Except Err View) : (viewRes s r).1 = s := by
  cases r <;> rfl

theorem viewRes_fail (s : State) (r : Except Err View) (e : Err) (h : r = .error e) : viewRes s r = (s, .error e) := by
  subst h; rfl

def Safe (s : State) (r : State × Res) : Prop := r.2.failed = true → r.1 = s

theorem safe_same (s : State) (r : Res) : Safe s (s, r) := fun _ => rfl
theorem safe_ok (s s' : State) (o : Out) : Safe s (s', .ok o) := fun h => nomatch h
theorem safe_bad (s : State) : Safe s (badOp s) := fun _ => rfl
theorem safe_commit (s : State) (k : Nat) (r : Except Err Arr) : Safe s (commit s k r) := by
  cases r with
  | ok a => exact safe_ok _ _ _
  | error e => exact safe_same _ _
theorem safe_commitS (s : State) (k : Nat) (r : Except Err SArr) : Safe s (commitS s k r) := by
  cases r with
  | ok a => exact safe_ok _ _ _
  | error e => exact safe_same _ _
theorem safe_commitA (s : State) (k : Nat) (r : Except Err AArr) : Safe s (commitA s k r) := by
  cases r with
  | ok a => exact safe_ok _ _ _
  | error e => exact safe_same _ _
theorem safe_viewRes (s : State) (r : Except Err View) : Safe s (viewRes s r) := fun _ => viewRes_state s r
theorem safe_redRes (s : State) (r : Except Err RedOut) : Safe s (redRes s r) := by
  intro _
  cases r with
  | ok a => cases a <;> rfl
  | error e => rfl

theorem step2_safe (s : State) (o : Op) (heor : ∀ k m c d, o ≠ .eor k m c d) : Safe s (step2 s o) := by
  fun_cases step2 s o
  -- the one branch not of a safe form: `either_or` whose second assignment is refused
  case case35 => exact absurd rfl (heor _ _ _ _)
  -- every other branch ends in `(s, _)`, `(_, .ok _)`, `badOp s`, or a `commit…` / `viewRes` / `redRes` of `s`
  all_goals simp only [safe_same, safe_ok, safe_bad, safe_commit, safe_commitS, safe_commitA, safe_viewRes, safe_redRes]

theorem step_safe (s : State) (o : Op) (hfill : ∀ k items, o ≠ .fill k items) (heor : ∀ k m c d, o ≠ .eor k m c d) :
    Safe s (step s o) := by
  fun_cases step s o
  -- a `<<` that fails keeps what it had written
  case case23 => exact absurd rfl (hfill _ _)
  case case58 => exact step2_safe s o heor
  -- every other branch: as in `step2_safe`
  all_goals simp only [safe_same, safe_ok, safe_commit, safe_viewRes]

theorem step_redd {s : State} {i j : Nat} {x y : Arr} (fn : RedFn) (op : BinOp) (dim : Int) (hi : s.get? i = some x)
    (hj : s.get? j = some y) (hk : (x.sameKind y && redOk fn op x && !(fn.isBool && x.rank == 1)) = true) :
    step s (.redd fn i op j dim) = redRes s (reduceDim fn x.rank (exprDims x y) (redVals fn op x y) dim) := by
  dsimp only [step, step2]
  simp only [hi, hj, hk, if_true]

theorem step_eor_error {s : State} {k m c d : Nat} {t mk cc dd t' : Arr} {e : Err} (hk : s.get? k = some t)
    (hm : s.get? m = some mk) (hc : s.get? c = some cc) (hd : s.get? d = some dd)
    (hkind : (t.sameKind mk && t.sameKind cc && t.sameKind dd) = true)
    (he : eitherOr t mk cc dd (m == k) (c == k) = (t', some e)) :
    step s (.eor k m c d) = (if t' = t then s else s.put k t', .error e) := by
  dsimp only [step, step2]
  simp only [hk, hm, hc, hd, hkind, if_true, he]

theorem exprDims_ne {x y : Arr} (h : x.dims ≠ y.dims) : exprDims x y = none :=
  if_neg (by simpa using h)

theorem exprDims_eq {x y : Arr} (h : x.dims = y.dims) : exprDims x y = some x.dims :=
  if_pos (by simpa using h)

theorem assign_ne {t : Arr} {d : List Nat} (vals : List Int) (hne : t.isEmpty = false) (h : d ≠ t.dims) :
    assign t (some d) vals = .error .size_mismatch := by
  simp only [assign, hne, Bool.false_eq_true, if_false, bne_iff_ne, ne_eq, h, not_false_eq_true, if_true]

theorem whereAssign_mismatch {t m x : Arr} (h : m.dims ≠ t.dims ∨ x.dims ≠ t.dims) :
    whereAssign t m x = .error .size_mismatch := by
  unfold whereAssign
  by_cases c : (m.dims != t.dims) = true
  · rw [if_pos c]
  · rw [if_neg c, if_pos (bne_iff_ne.mpr (h.resolve_left (by simpa using c)))]

theorem whereExpr_mismatch {t a1 a2 x y : Arr}
    (h : a1.dims ≠ a2.dims ∨ a1.dims ≠ t.dims ∨ x.dims ≠ y.dims ∨ x.dims ≠ t.dims) :
    whereExpr t a1 a2 x y = .error .size_mismatch := by
  unfold whereExpr
  by_cases c1 : (a1.dims != a2.dims) = true
  · rw [if_pos c1]
  by_cases c2 : (a1.dims != t.dims) = true
  · rw [if_neg c1, if_pos c2]
  by_cases c3 : (x.dims != y.dims) = true
  · rw [if_neg c1, if_neg c2, if_pos c3]
  by_cases c4 : (x.dims != t.dims) = true
  · rw [if_neg c1, if_neg c2, if_neg c3, if_pos c4]
  simp only [bne_iff_ne, ne_eq, Decidable.not_not] at c1 c2 c3 c4
  exact h.elim (absurd c1) (·.elim (absurd c2) (·.elim (absurd c3) (absurd c4)))

theorem diagVector_not_square {a : Arr} {R C : Nat} (o : Int) (hd : a.dims = [R, C]) (hR : 0 < R) (h : R ≠ C) :
    diagVector a o = .error .invalid_operation := by
  have hne : a.isEmpty = false := by simp [Arr.isEmpty, hd]; omega
  simp [diagVector, hne, hd, h]

theorem subDiag_not_square {a : Arr} {R C : Nat} (ib ie : Int) (hd : a.dims = [R, C]) (h : R ≠ C) :
    subDiag a ib ie = .error .invalid_operation := by
  simp [subDiag, hd, h]

/-- a negative extent that no zero extent precedes -/
def NegFirst : List Int → Prop
  | [] => False
  | d :: ds => d < 0 ∨ (0 < d ∧ NegFirst ds)

theorem resizeLoop_neg (dims : List Int) (h : NegFirst dims) : resizeLoop dims = .error .invalid_dimension := by
  induction dims with
  | nil => exact absurd h (by simp [NegFirst])
  | cons d ds ih =>
    simp only [NegFirst] at h
    unfold resizeLoop
    cases h with
    | inl h => simp [h]
    | inr h =>
      have h1 : ¬ d < 0 := by omega
      have h2 : ¬ d = 0 := by omega
      simp only [h1, h2, if_false, ih h.2]

theorem newArr_neg (dbl : Bool) (seed : Int) {dims : List Int} (h : NegFirst dims) :
    newArr dbl seed dims = .error .invalid_dimension := by
  rw [newArr, resizeLoop_neg dims h]

theorem resizeDims_neg (a : Arr) (seed : Int) {dims : List Int} (h : NegFirst dims) :
    resizeDims a seed dims = .error .invalid_dimension := by
  rw [resizeDims, resizeLoop_neg dims h]

theorem resizeInt_neg (a : Arr) (seed : Int) {dims : List Int} (h : dims.any (· < 0) = true) :
    resizeInt a seed dims = .error .invalid_dimension := by
  rw [resizeInt, if_pos h]

theorem resizeLoop_error (dims : List Int) (e : Err) (h : resizeLoop dims = .error e) :
    e = .invalid_dimension ∧ NegFirst dims := by
  induction dims with
  | nil => simp [resizeLoop] at h
  | cons d ds ih =>
    unfold resizeLoop at h
    simp only [NegFirst]
    by_cases h1 : d < 0
    · simp only [h1, if_true, Except.error.injEq] at h
      exact ⟨h.symm, Or.inl h1⟩
    · by_cases h2 : d = 0
      · simp [h2] at h
      · simp only [h1, h2, if_false] at h
        cases hr : resizeLoop ds with
        | error e' =>
          simp only [hr, Except.error.injEq] at h
          obtain ⟨he, hn⟩ := ih (h ▸ hr)
          exact ⟨he, Or.inr ⟨by omega, hn⟩⟩
        | ok r => cases r <;> simp [hr] at h

def setRun : List Int → Nat → List Int → List Int
  | vals, _, [] => vals
  | vals, c, v :: vs => setRun (vals.set c v) (c + 1) vs

theorem writeRun_single (vals : List Int) (c : Nat) (v : Int) : writeRun vals c [v] = vals.set c v := by
  simp [writeRun, List.range_succ]

theorem setRun_length (vals : List Int) (c : Nat) (vs : List Int) : (setRun vals c vs).length = vals.length := by
  induction vs generalizing vals c with
  | nil => rfl
  | cons v vs ih => simp [setRun, ih]

theorem setRun_eq (vals : List Int) (c : Nat) (vs : List Int) (h : c + vs.length ≤ vals.length) :
    setRun vals c vs = vals.take c ++ vs ++ vals.drop (c + vs.length) := by
  induction vs generalizing vals c with
  | nil => simp [setRun]
  | cons v vs ih =>
    simp only [List.length_cons] at h
    simp only [setRun]
    rw [ih _ _ (by simp; omega)]
    have hc : c < vals.length := by omega
    rw [List.set_eq_take_append_cons_drop, if_pos hc]
    simp only [List.length_cons]
    have hl : (vals.take c).length = c := by simp [List.length_take]; omega
    have e1 : (vals.take c ++ v :: vals.drop (c + 1)).take (c + 1) = vals.take c ++ [v] := by
      have := List.take_length_add_append (l₁ := vals.take c) (l₂ := v :: vals.drop (c + 1)) 1
      rw [hl] at this
      rw [this]; simp
    have e2 : (vals.take c ++ v :: vals.drop (c + 1)).drop (c + 1 + vs.length) = vals.drop (c + (vs.length + 1)) := by
      have := List.drop_length_add_append (l₁ := vals.take c) (l₂ := v :: vals.drop (c + 1)) (1 + vs.length)
      rw [hl] at this
      have e : c + 1 + vs.length = c + (1 + vs.length) := by omega
      rw [e, this]
      have e' : 1 + vs.length = vs.length + 1 := by omega
      rw [e', List.drop_succ_cons, List.drop_drop]
      congr 1; omega
    rw [e1, e2]
    simp

theorem writeRunChk_single (vals : List Int) (c : Nat) (v : Int) (h : c < vals.length) :
    writeRunChk vals c [v] = some (vals.set c v) := by
  unfold writeRunChk
  rw [if_pos (by simp only [List.length_cons, List.length_nil]; omega), writeRun_single]

theorem writeRun_length (vals : List Int) (c : Nat) (xs : List Int) : (writeRun vals c xs).length = vals.length := by
  unfold writeRun
  generalize List.range xs.length = l
  induction l generalizing vals with
  | nil => rfl
  | cons t l ih => simp only [List.foldl_cons]; rw [ih]; simp

theorem writeRunChk_length (vals : List Int) (c : Nat) (xs v' : List Int) (h : writeRunChk vals c xs = some v') :
    v'.length = vals.length := by
  unfold writeRunChk at h
  split at h
  · cases h
    exact writeRun_length vals c xs
  · cases h

theorem al1Step_fail (n : Nat) (al : Al1) (p : Piece) (e : Err) (h : (al1Step n al p).2 = some e) :
    (al1Step n al p).1 = al ∧ (e = .index_out_of_bounds ∨ e = .wild) := by
  revert h
  fun_cases al1Step n al p
  all_goals intro h
  -- the branches that store go; in the others `e` becomes the exception raised
  all_goals cases h
  all_goals exact ⟨rfl, by decide⟩

theorem al1Step_no_wild (n : Nat) (al : Al1) (p : Piece) (hl : al.vals.length = n) :
    (al1Step n al p).2 ≠ some .wild ∧ (al1Step n al p).1.vals.length = n := by
  fun_cases al1Step n al p
  · exact ⟨nofun, hl⟩
  · exact ⟨nofun, (writeRunChk_length _ _ _ _ ‹_›).trans hl⟩
  · -- the store lies inside the memory, so `writeRunChk` cannot have refused it
    rename_i hc hw
    rw [writeRunChk_single _ _ _ (by omega)] at hw
    cases hw
  · exact ⟨nofun, hl⟩
  · exact ⟨nofun, hl⟩
  · exact ⟨nofun, hl⟩
  · exact ⟨nofun, (writeRunChk_length _ _ _ _ ‹_›).trans hl⟩
  · rename_i h2 h3 hw
    rw [writeRunChk, if_pos (by omega)] at hw
    cases hw

theorem al1Run_scalars (n : Nat) (vs : List Int) (vals : List Int) (c : Nat) (hc : c ≤ n) (hl : vals.length = n) :
    al1Run n ⟨vals, c⟩ (vs.map Piece.s) =
      (⟨setRun vals c (vs.take (n - c)), min (c + vs.length) n⟩,
        if c + vs.length ≤ n then none else some .index_out_of_bounds) := by
  induction vs generalizing vals c with
  | nil => simp [al1Run, setRun, hc]
  | cons v vs ih =>
    simp only [List.map_cons, al1Run, al1Step, List.length_cons]
    by_cases hcn : c ≥ n
    · have : c = n := by omega
      subst this
      simp [setRun]
    · simp only [hcn, if_false]
      rw [writeRunChk_single _ _ _ (by omega)]
      simp only []
      rw [ih _ _ (by omega) (by simp [hl])]
      -- one more value fits: it is the head of what is taken
      have e : n - c = (n - (c + 1)) + 1 := by omega
      rw [e, List.take_succ_cons, Nat.add_right_comm c 1, Nat.add_assoc c]
      rfl

theorem al1Run_scalars_zero (vals vs : List Int) :
    ((al1Run vals.length ⟨vals, 0⟩ (vs.map Piece.s)).1.vals, (al1Run vals.length ⟨vals, 0⟩ (vs.map Piece.s)).2) =
      if vs.length ≤ vals.length then (vs ++ vals.drop vs.length, none)
      else (vs.take vals.length, some .index_out_of_bounds) := by
  rw [al1Run_scalars _ vs vals 0 (Nat.zero_le _) rfl, Nat.sub_zero, Nat.zero_add,
    setRun_eq _ _ _ (by rw [Nat.zero_add]; exact List.length_take_le _ _)]
  by_cases hle : vs.length ≤ vals.length
  · rw [if_pos hle, if_pos hle, List.take_of_length_le hle]
    simp
  · rw [if_neg hle, if_neg hle, List.length_take_of_le (by omega)]
    simp

theorem flat_lt {r R c C : Nat} (hr : r < R) (hc : c < C) : r * C + c < R * C := by
  rw [Nat.add_comm, Nat.mul_comm R C]
  exact add_mul_lt_mul hc hr

theorem al2CompleteRow_err (R : Nat) (al : Al2) (e : Err) (h : al2CompleteRow R al = .error e) : e = .index_out_of_bounds := by
  unfold al2CompleteRow at h
  split at h
  · cases h
  · cases h; rfl

theorem al2CompleteRow_ok (R : Nat) (al a : Al2) (h : al2CompleteRow R al = .ok a) :
    a = { al with r := al.r + al.obj, c := 0, obj := 0 } ∧ al.r + al.obj < R := by
  unfold al2CompleteRow at h
  split at h
  · rename_i hlt; simp only [Except.ok.injEq] at h; exact ⟨h.symm, hlt⟩
  · simp at h

theorem al2Place_err (R C : Nat) (al : Al2) (sh : Shape) (e : Err) (h : al2Place R C al sh = .error e) :
    e = .index_out_of_bounds := by
  revert h
  fun_cases al2Place R C al sh
  all_goals intro h
  -- the successful branches go; in the others `e` becomes the exception raised
  all_goals cases h
  · exact al2CompleteRow_err R al e ‹_›
  · rfl
  · rename_i hcr
    split at hcr
    · exact al2CompleteRow_err R al e hcr
    · cases hcr
  · rfl
  · rfl
  · rfl

theorem withLead_vals (a : Al2) (l : Nat) : (a.withLead l).vals = a.vals := by unfold Al2.withLead; split <;> rfl
theorem withLead_r (a : Al2) (l : Nat) : (a.withLead l).r = a.r := by unfold Al2.withLead; split <;> rfl
theorem withLead_c (a : Al2) (l : Nat) : (a.withLead l).c = a.c := by unfold Al2.withLead; split <;> rfl

theorem al2Place_ok (R C : Nat) (hC : 0 < C) (al a : Al2) (sh : Shape) (hr : al.r < R)
    (hs : sh.scalar = true → sh.q = 1) (h : al2Place R C al sh = .ok a) :
    a.vals = al.vals ∧ a.r < R ∧ a.c + sh.q ≤ C ∧ (sh.mat = true → sh.scalar = false → a.r + sh.p ≤ R) := by
  revert h
  fun_cases al2Place R C al sh
  all_goals intro h
  all_goals cases h
  · rename_i hsc _ a1 hcr
    obtain ⟨rfl, hlt⟩ := al2CompleteRow_ok R al a1 hcr
    exact ⟨rfl, hlt, by rw [hs hsc]; exact hC, fun _ h2 => nomatch hsc.symm.trans h2⟩
  · rename_i hsc hc h0
    exact ⟨rfl, hr, by rw [hs hsc]; show al.c + 1 ≤ C; omega, fun _ h2 => nomatch hsc.symm.trans h2⟩
  · rename_i hsc hc h0 _
    exact ⟨rfl, hr, by rw [hs hsc]; omega, fun _ h2 => nomatch hsc.symm.trans h2⟩
  · rename_i hsc a1 hcr hlead hfit1 hfit2
    have ha1 : a1.vals = al.vals ∧ a1.r < R := by
      split at hcr
      · obtain ⟨rfl, hlt⟩ := al2CompleteRow_ok R al a1 hcr
        exact ⟨rfl, hlt⟩
      · cases hcr
        exact ⟨rfl, hr⟩
    rw [withLead_vals, withLead_r, withLead_c]
    refine ⟨ha1.1, ha1.2, by omega, fun hm _ => ?_⟩
    simp only [hm, true_and] at hfit1
    omega

theorem writeBlockChk_ok (R C q : Nat) (p : Nat) (vals : List Int) (r c : Nat) (xs : List Int)
    (hl : vals.length = R * C) (hr : r + p ≤ R) (hc : c + q ≤ C) :
    ∃ v', writeBlockChk C vals r c q p xs = some v' ∧ v'.length = vals.length := by
  induction p generalizing vals r xs with
  | zero => exact ⟨vals, rfl, rfl⟩
  | succ p ih =>
    unfold writeBlockChk
    have h1 : (r + 1) * C ≤ R * C := Nat.mul_le_mul_right C (by omega)
    have h2 : (r + 1) * C = r * C + C := Nat.succ_mul r C
    have h3 : (xs.take q).length ≤ q := List.length_take_le q xs
    have hle : r * C + c + (xs.take q).length ≤ vals.length := by omega
    simp only [writeRunChk, if_pos hle]
    obtain ⟨v', hv, hlen⟩ := ih (writeRun vals (r * C + c) (xs.take q)) (r + 1) (xs.drop q)
      (by rw [writeRun_length, hl]) (by omega)
    exact ⟨v', hv, by rw [hlen, writeRun_length]⟩

theorem al2Put_fail (R C : Nat) (al : Al2) (sh : Shape) (xs : List Int) (e : Err) (h : (al2Put R C al sh xs).2 = some e) :
    (al2Put R C al sh xs).1 = al ∧ (e = .index_out_of_bounds ∨ e = .wild) := by
  unfold al2Put at h ⊢
  cases hp : al2Place R C al sh with
  | error e2 =>
    simp only [hp, Option.some.injEq] at h ⊢
    subst h
    exact ⟨trivial, Or.inl (al2Place_err R C al sh _ hp)⟩
  | ok a =>
    simp only [hp] at h ⊢
    cases hw : writeBlockChk C a.vals a.r a.c sh.q sh.p xs with
    | some v' => simp [hw] at h
    | none => simp only [hw, Option.some.injEq] at h ⊢; exact ⟨trivial, Or.inr h.symm⟩

theorem al2Step_fail (R C : Nat) (al : Al2) (pc : Piece) (e : Err) (h : (al2Step R C al pc).2 = some e) :
    (al2Step R C al pc).1 = al ∧ (e = .index_out_of_bounds ∨ e = .wild) := by
  cases pc with
  | s v => exact al2Put_fail R C al _ _ e h
  | a x =>
    simp only [al2Step] at h ⊢
    split
    · rename_i he; simp [he] at h
    · rename_i he; simp only [he] at h; exact al2Put_fail R C al _ _ e h

theorem shape_scalar_q (pc : Piece) : pc.shape.scalar = true → pc.shape.q = 1 := by
  cases pc with
  | s v => intro _; rfl
  | a x =>
    simp only [Piece.shape]
    split <;> simp

theorem shape_notmat_p (pc : Piece) : pc.shape.mat = false → pc.shape.p ≤ 1 := by
  cases pc with
  | s v => intro _; simp [Piece.shape]
  | a x =>
    simp only [Piece.shape]
    split <;> simp

theorem al2Step_no_wild (R C : Nat) (hC : 0 < C) (al : Al2) (pc : Piece) (hl : al.vals.length = R * C) (hr : al.r < R) :
    (al2Step R C al pc).2 ≠ some .wild ∧ (al2Step R C al pc).1.vals.length = R * C ∧ (al2Step R C al pc).1.r < R := by
  have put : ∀ pc : Piece, (al2Put R C al pc.shape pc.elems).2 ≠ some .wild ∧
      (al2Put R C al pc.shape pc.elems).1.vals.length = R * C ∧ (al2Put R C al pc.shape pc.elems).1.r < R := by
    intro pc
    unfold al2Put
    cases hp : al2Place R C al pc.shape with
    | error e2 =>
      refine ⟨?_, hl, hr⟩
      have := al2Place_err R C al _ _ hp
      subst this; simp
    | ok a =>
      obtain ⟨hv, hra, hfit, hrow⟩ := al2Place_ok R C hC al a pc.shape hr (shape_scalar_q pc) hp
      have hrow' : a.r + pc.shape.p ≤ R := by
        by_cases hm : pc.shape.mat = true
        · by_cases hs : pc.shape.scalar = true
          · cases pc with
            | s v => simp [Piece.shape] at hm
            | a x =>
              simp only [Piece.shape] at hs
              split at hs <;> simp at hs
          · exact hrow hm (by simpa using hs)
        · have := shape_notmat_p pc (by simpa using hm)
          omega
      obtain ⟨v', hw, hlen⟩ := writeBlockChk_ok R C pc.shape.q pc.shape.p a.vals a.r a.c pc.elems (by rw [hv, hl]) hrow' hfit
      simp only [hw]
      exact ⟨by simp, by simp [hlen, hv, hl], hra⟩
  cases pc with
  | s v => exact put (.s v)
  | a x =>
    simp only [al2Step]
    split
    · exact ⟨by simp, hl, hr⟩
    · exact put (.a x)

/-- number of elements a row-major scalar fill has placed when the allocator stands at `(r, c)` -/
def pos2 (C : Nat) (al : Al2) : Nat := al.r * C + al.c

structure Inv2 (R C : Nat) (al : Al2) : Prop where
  cle : al.c ≤ C
  rlt : al.r < R
  obj : al.c = 0 ∨ al.obj = 1
  len : al.vals.length = R * C

theorem writeBlockChk_scalar (C : Nat) (vals : List Int) (r c : Nat) (v : Int) (h : r * C + c < vals.length) :
    writeBlockChk C vals r c 1 1 [v] = some (vals.set (r * C + c) v) := by
  simp only [writeBlockChk, List.take_succ_cons, List.take_zero]
  rw [writeRunChk_single _ _ _ h]

/-- a scalar goes on the next cell in row-major order while there is one -/
theorem al2Place_scalar {R C : Nat} (hC : 0 < C) {al : Al2} (inv : Inv2 R C al) {sh : Shape} (hs : sh.scalar = true) :
    (pos2 C al < R * C → ∃ a, al2Place R C al sh = .ok a ∧ a.vals = al.vals ∧ a.obj = 1 ∧ a.r < R ∧ a.c < C ∧
        pos2 C a = pos2 C al) ∧
    (¬ pos2 C al < R * C → al2Place R C al sh = .error .index_out_of_bounds) := by
  obtain ⟨hcle, hrlt, hobj, _⟩ := inv
  have hin : al.c < C → pos2 C al < R * C := flat_lt hrlt
  -- at the end of a row the position is the start of the next row
  have hend : al.c ≥ C → al.obj = 1 ∧ pos2 C al = (al.r + 1) * C :=
    fun hc => ⟨hobj.resolve_left (by omega), by rw [pos2, Nat.succ_mul]; omega⟩
  fun_cases al2Place R C al sh
  · rename_i _ hc a1 hcr
    obtain ⟨rfl, hlt⟩ := al2CompleteRow_ok R al a1 hcr
    obtain ⟨hob, hp⟩ := hend hc
    rw [hob] at hlt
    have hnext : (al.r + 1) * C + 0 < R * C := flat_lt hlt hC
    exact ⟨fun _ => ⟨_, rfl, rfl, rfl, hob ▸ hlt, hC, by rw [hp, pos2, hob]; exact Nat.add_zero _⟩, fun h => absurd (hp ▸ hnext) h⟩
  · rename_i _ hc e hcr
    obtain ⟨hob, hp⟩ := hend hc
    rw [al2CompleteRow, hob] at hcr
    by_cases hlt : al.r + 1 < R
    · rw [if_pos hlt] at hcr
      cases hcr
    · rw [if_neg hlt] at hcr
      cases hcr
      have hlast : R * C ≤ (al.r + 1) * C := Nat.mul_le_mul_right C (by omega)
      exact ⟨fun h => absurd h (by omega), fun _ => rfl⟩
  · rename_i _ hc h0
    exact ⟨fun _ => ⟨_, rfl, rfl, rfl, hrlt, h0 ▸ hC, rfl⟩, fun h => absurd (hin (by omega)) h⟩
  · rename_i _ hc h0 hob
    exact absurd (hobj.resolve_left h0) hob
  · rename_i _ hc h0 hob
    exact ⟨fun _ => ⟨al, rfl, rfl, Decidable.of_not_not hob, hrlt, by omega, rfl⟩, fun h => absurd (hin (by omega)) h⟩
  all_goals exact absurd hs ‹_›

theorem al2Step_scalar (R C : Nat) (hC : 0 < C) (al : Al2) (inv : Inv2 R C al) (v : Int) :
    (pos2 C al < R * C → ∃ al', al2Step R C al (.s v) = (al', none) ∧ al'.vals = al.vals.set (pos2 C al) v ∧
        Inv2 R C al' ∧ pos2 C al' = pos2 C al + 1) ∧
    (¬ pos2 C al < R * C → al2Step R C al (.s v) = (al, some .index_out_of_bounds)) := by
  obtain ⟨hok, hfail⟩ := al2Place_scalar hC inv (sh := (Piece.s v).shape) rfl
  have hstep : al2Step R C al (.s v) = al2Put R C al (Piece.s v).shape [v] := rfl
  rw [hstep, al2Put]
  constructor
  · intro h
    obtain ⟨a, hp, hv, hob, hr, hc, hpos⟩ := hok h
    rw [pos2] at hpos
    have hw : writeBlockChk C a.vals a.r a.c (Piece.s v).shape.q (Piece.s v).shape.p [v] = _ :=
      writeBlockChk_scalar C a.vals a.r a.c v (by rw [hv, hpos, inv.len]; exact h)
    refine ⟨{ a with vals := a.vals.set (a.r * C + a.c) v, c := a.c + 1 }, ?_, ?_, ⟨hc, hr, Or.inr hob, ?_⟩, ?_⟩
    · simp only [hp, hw]
      rfl
    · show a.vals.set _ v = _
      rw [hpos, hv]
    · show (a.vals.set _ v).length = _
      rw [List.length_set, hv, inv.len]
    · show a.r * C + (a.c + 1) = _
      rw [← hpos, Nat.add_assoc]
  · intro h
    rw [hfail h]

/-- under `Inv2`, a chain of scalars into an `R × C` matrix is the same chain into the vector of its `R·C` elements,
    begun at the row-major position -/
theorem al2Run_scalars (R C : Nat) (hC : 0 < C) (vs : List Int) (al : Al2) (inv : Inv2 R C al) :
    ((al2Run R C al (vs.map Piece.s)).1.vals, (al2Run R C al (vs.map Piece.s)).2) =
      ((al1Run (R * C) ⟨al.vals, pos2 C al⟩ (vs.map Piece.s)).1.vals,
        (al1Run (R * C) ⟨al.vals, pos2 C al⟩ (vs.map Piece.s)).2) := by
  induction vs generalizing al with
  | nil => rfl
  | cons v vs ih =>
    obtain ⟨hok, hfail⟩ := al2Step_scalar R C hC al inv v
    simp only [List.map_cons, al2Run, al1Run, al1Step]
    by_cases hlt : pos2 C al < R * C
    · obtain ⟨al', hstep, hvals, hinv, hpos⟩ := hok hlt
      rw [hstep, if_neg (by omega), writeRunChk_single _ _ _ (by rw [inv.len]; exact hlt)]
      simp only []
      rw [ih al' hinv, hvals, hpos]
    · rw [hfail hlt, if_pos (by omega)]

theorem al1Run_err (n : Nat) (ps : List Piece) (al : Al1) (hl : al.vals.length = n) :
    (al1Run n al ps).1.vals.length = n ∧ ∀ e, (al1Run n al ps).2 = some e → e = .index_out_of_bounds := by
  induction ps generalizing al with
  | nil => exact ⟨hl, by intro e h; simp [al1Run] at h⟩
  | cons p ps ih =>
    obtain ⟨hnw, hlen⟩ := al1Step_no_wild n al p hl
    unfold al1Run
    cases hstep : al1Step n al p with
    | mk al' r =>
      rw [hstep] at hnw hlen
      cases r with
      | none => exact ih al' hlen
      | some e' =>
        refine ⟨hlen, ?_⟩
        intro e he
        simp only [Option.some.injEq] at he
        subst he
        have := (al1Step_fail n al p e' (by rw [hstep])).2
        cases this with
        | inl h => exact h
        | inr h => subst h; exact absurd rfl hnw

theorem al2Run_err (R C : Nat) (hC : 0 < C) (ps : List Piece) (al : Al2) (hl : al.vals.length = R * C) (hr : al.r < R) :
    (al2Run R C al ps).1.vals.length = R * C ∧ ∀ e, (al2Run R C al ps).2 = some e → e = .index_out_of_bounds := by
  induction ps generalizing al with
  | nil => exact ⟨hl, by intro e h; simp [al2Run] at h⟩
  | cons p ps ih =>
    obtain ⟨hnw, hlen, hr'⟩ := al2Step_no_wild R C hC al p hl hr
    unfold al2Run
    cases hstep : al2Step R C al p with
    | mk al' r =>
      rw [hstep] at hnw hlen hr'
      cases r with
      | none => exact ih al' hlen hr'
      | some e' =>
        refine ⟨hlen, ?_⟩
        intro e he
        simp only [Option.some.injEq] at he
        subst he
        have := (al2Step_fail R C al p e' (by rw [hstep])).2
        cases this with
        | inl h => exact h
        | inr h => subst h; exact absurd rfl hnw

inductive Bounded : List Nat → List Nat → Prop
  | nil : Bounded [] []
  | cons {i d : Nat} {is ds : List Nat} : i < d → Bounded is ds → Bounded (i :: is) (d :: ds)

theorem prod_cons (d : Nat) (ds : List Nat) : prod (d :: ds) = d * prod ds := by
  rw [prod, List.foldl_cons, Nat.mul_comm 1 d]
  exact List.foldl_assoc

theorem encode_foldl_lt (idx dims : List Nat) (h : Bounded idx dims) (acc : Nat) :
    (List.zip dims idx).foldl (fun acc p => acc * p.1 + p.2) acc < (acc + 1) * prod dims := by
  induction h generalizing acc with
  | nil => simp [prod]
  | @cons i d is ds hid _ ih =>
    simp only [List.zip_cons_cons, List.foldl_cons]
    have h1 := ih (acc * d + i)
    rw [prod_cons]
    have h2 : (acc * d + i + 1) * prod ds ≤ (acc * d + d) * prod ds := Nat.mul_le_mul_right _ (by omega)
    have h3 : (acc * d + d) * prod ds = (acc + 1) * (d * prod ds) := by
      rw [← Nat.mul_assoc, Nat.succ_mul]
    omega

theorem encode_lt (idx dims : List Nat) (h : Bounded idx dims) : encode dims idx < prod dims := by
  have := encode_foldl_lt idx dims h 0
  simpa [encode] using this

theorem decode_cons (d : Nat) (ds : List Nat) (t : Nat) :
    ∃ r, decode (d :: ds) t = (r % d) :: decode ds t := by
  unfold decode
  simp only [List.foldr_cons]
  exact ⟨_, rfl⟩

theorem decode_bounded (dims : List Nat) (t : Nat) (hpos : ∀ d ∈ dims, 0 < d) : Bounded (decode dims t) dims := by
  induction dims with
  | nil => exact Bounded.nil
  | cons d ds ih =>
    obtain ⟨r, hr⟩ := decode_cons d ds t
    rw [hr]
    exact Bounded.cons (Nat.mod_lt _ (hpos d (by simp))) (ih (fun e he => hpos e (by simp [he])))

theorem insert_bounded (dims : List Nat) (dim : Nat) (oi : List Nat) (q : Nat) (hd : dim < dims.length)
    (hq : q < dims.getD dim 0) (h : Bounded oi (dims.eraseIdx dim)) :
    Bounded (oi.take dim ++ [q] ++ oi.drop dim) dims := by
  induction dims generalizing dim oi with
  | nil => simp at hd
  | cons d ds ih =>
    cases dim with
    | zero =>
      simp only [List.eraseIdx_cons_zero, List.getD_cons_zero] at h hq
      simp only [List.take_zero, List.nil_append, List.drop_zero, List.singleton_append]
      exact Bounded.cons hq h
    | succ n =>
      simp only [List.eraseIdx_cons_succ] at h
      simp only [List.getD_cons_succ] at hq
      cases h with
      | cons ho hos =>
        rename_i o os
        simp only [List.take_succ_cons, List.drop_succ_cons, List.cons_append]
        exact Bounded.cons ho (ih n os (by simpa using hd) hq hos)

end Adept.Misuse
