import AdeptModel.RecBuf
/-!
The recording buffers (C09), event by event: what an event `needs` of the free operations and the `credit` it leaves, once for
the buffers (`step_spec`) and once for the discipline (`disciplined_cons`); streams are then list inductions.  Core Lean only.
-/
namespace Adept.RecBuf

/-- well-formed buffer state: counts within capacity, statement stack has room to double -/
def WF (b : B) : Prop := b.nOps ≤ b.allocOps ∧ b.nSt ≤ b.allocSt ∧ 0 < b.allocSt

/-- operations that can still be pushed -/
def free (b : B) : Nat := b.allocOps - b.nOps

theorem grow_ge (alloc min : Nat) : alloc + min ≤ grow alloc min := by
  unfold grow
  split <;> omega

theorem grow_double (alloc min : Nat) : 2 * alloc ≤ grow alloc min := by
  unfold grow
  split <;> omega

/-- `push_rhs_indices<Num,Stride>` writes `(Num-1)*Stride` beyond the next entry -/
def needs : Ev → Nat
  | .push => 1
  | .pushIdx num stride => (num - 1) * stride + 1
  | _ => 0

def credit (f : Nat) : Ev → Nat
  | .check k => max f k
  | .preOps k => max f k
  | .push => f - 1
  | .pushIdx _ _ => f - 1
  | _ => f

theorem disciplined_cons (f : Nat) (e : Ev) (es : List Ev) :
    disciplined f (e :: es) = (decide (needs e ≤ f) && disciplined (credit f e) es) := by
  cases e <;> rfl

theorem credit_mono {f f' : Nat} (h : f ≤ f') (e : Ev) : credit f e ≤ credit f' e := by
  cases e <;> simp only [credit] <;> omega

/-- number of operations / statements an event records, independent of any capacity -/
def opsOf : Ev → Nat
  | .push => 1 | .pushIdx _ _ => 1 | _ => 0
def stmtsOf : Ev → Nat
  | .lhs => 1 | .lhsRange n => n | _ => 0

theorem credit_ge (f : Nat) (e : Ev) : f - opsOf e ≤ credit f e := by
  cases e <;> simp only [credit, opsOf] <;> omega

theorem step_counts (b : B) (e : Ev) :
    (step b e).1.nOps = b.nOps + opsOf e ∧ (step b e).1.nSt = b.nSt + stmtsOf e := by
  cases e with
  | push => exact ⟨rfl, rfl⟩
  | pushIdx _ _ => exact ⟨rfl, rfl⟩
  | check k =>
    simp only [step]
    split <;> exact ⟨rfl, rfl⟩
  | preOps k =>
    simp only [step]
    split <;> exact ⟨rfl, rfl⟩
  | preSt k =>
    simp only [step]
    split <;> exact ⟨rfl, rfl⟩
  | lhs =>
    simp only [step]
    split <;> exact ⟨rfl, rfl⟩
  | lhsRange n =>
    simp only [step]
    split <;> exact ⟨rfl, rfl⟩

theorem step_preOps_eq (b : B) (n : Nat) : step b (.preOps n) = step b (.check n) := rfl

theorem step_check (b : B) (k : Nat) (hw : WF b) :
    WF (step b (.check k)).1 ∧ (step b (.check k)).2 = false ∧ max (free b) k ≤ free (step b (.check k)).1 := by
  obtain ⟨h1, h2, h3⟩ := hw
  have := grow_ge b.allocOps k
  simp only [step, WF, free, true_and]
  split
  · dsimp only
    omega
  · omega

theorem step_spec (b : B) (e : Ev) (hw : WF b) (hn : needs e ≤ free b) :
    WF (step b e).1 ∧ (step b e).2 = false ∧ credit (free b) e ≤ free (step b e).1 := by
  obtain ⟨h1, h2, h3⟩ := hw
  cases e with
  | check k => exact step_check b k ⟨h1, h2, h3⟩
  | preOps k =>
    rw [step_preOps_eq]
    exact step_check b k ⟨h1, h2, h3⟩
  | push =>
    simp only [needs, free] at hn
    simp only [step, WF, free, credit, decide_eq_false_iff_not]
    omega
  | pushIdx num stride =>
    simp only [needs, free] at hn
    simp only [step, WF, free, credit, decide_eq_false_iff_not]
    omega
  | lhs =>
    -- doubling makes room only from a positive capacity: what `0 < allocSt` in `WF` is for
    have := grow_double b.allocSt 0
    simp only [step, WF, free, credit, decide_eq_false_iff_not]
    split
    · dsimp only
      omega
    · omega
  | lhsRange n =>
    have := grow_ge b.allocSt n
    simp only [step, WF, free, credit, decide_eq_false_iff_not]
    split
    · dsimp only
      omega
    · omega
  | preSt n =>
    have := grow_ge b.allocSt n
    simp only [step, WF, free, credit, true_and]
    split
    · dsimp only
      omega
    · omega

theorem run_nil (b : B) : run b [] = (b, false) := rfl

theorem foldl_stepAcc_flag (es : List Ev) (b : B) :
    (es.foldl stepAcc (b, true)).2 = true := by
  induction es generalizing b with
  | nil => rfl
  | cons e es ih => simp only [List.foldl_cons, stepAcc, Bool.true_or]; exact ih _

theorem run_cons (b : B) (e : Ev) (es : List Ev) (h : (step b e).2 = false) :
    run b (e :: es) = run (step b e).1 es := by
  simp only [run, List.foldl_cons, stepAcc, Bool.false_or, h]

theorem disciplined_mono (es : List Ev) (f f' : Nat) (h : f ≤ f') (hd : disciplined f es = true) :
    disciplined f' es = true := by
  induction es generalizing f f' with
  | nil => rfl
  | cons e es ih =>
    rw [disciplined_cons, Bool.and_eq_true, decide_eq_true_eq] at hd ⊢
    exact ⟨Nat.le_trans hd.1 h, ih _ _ (credit_mono h e) hd.2⟩

theorem disciplined_safe (es : List Ev) (b : B) (f : Nat) (hw : WF b) (hf : f ≤ free b)
    (hd : disciplined f es = true) : (run b es).2 = false ∧ WF (run b es).1 := by
  induction es generalizing b f with
  | nil => exact ⟨rfl, hw⟩
  | cons e es ih =>
    rw [disciplined_cons, Bool.and_eq_true, decide_eq_true_eq] at hd
    obtain ⟨w, nf, hc⟩ := step_spec b e hw (Nat.le_trans hd.1 hf)
    rw [run_cons b e es nf]
    exact ih _ _ w (Nat.le_trans (credit_mono hf e) hc) hd.2

theorem initial_WF (len : Nat) (h : 0 < len) : WF (initial len) :=
  (step_spec ⟨0, len, 0, len⟩ .lhs ⟨Nat.zero_le _, Nat.zero_le _, h⟩ (Nat.zero_le _)).1

theorem newRecording_WF (b : B) (hw : WF b) : WF (newRecording b) :=
  (step_spec { b with nOps := 0, nSt := 0 } .lhs ⟨Nat.zero_le _, Nat.zero_le _, hw.2.2⟩ (Nat.zero_le _)).1

theorem run_counts (es : List Ev) (b : B) :
    (run b es).1.nOps = b.nOps + (es.map opsOf).sum ∧ (run b es).1.nSt = b.nSt + (es.map stmtsOf).sum := by
  unfold run
  suffices h : ∀ (acc : B × Bool), (es.foldl stepAcc acc).1.nOps = acc.1.nOps + (es.map opsOf).sum ∧
      (es.foldl stepAcc acc).1.nSt = acc.1.nSt + (es.map stmtsOf).sum from h (b, false)
  induction es with
  | nil => intro acc; simp
  | cons e es ih =>
    intro acc
    simp only [List.foldl_cons, List.map_cons, List.sum_cons]
    obtain ⟨h1, h2⟩ := ih (stepAcc acc e)
    obtain ⟨c1, c2⟩ := step_counts acc.1 e
    simp only [stepAcc] at h1 h2 ⊢
    rw [h1, h2, c1, c2]; omega

theorem run_counts_insert (es₁ es₂ : List Ev) (e : Ev) (b : B) (ho : opsOf e = 0) (hs : stmtsOf e = 0) :
    (run b (es₁ ++ e :: es₂)).1.nOps = (run b (es₁ ++ es₂)).1.nOps ∧
    (run b (es₁ ++ e :: es₂)).1.nSt = (run b (es₁ ++ es₂)).1.nSt := by
  obtain ⟨a1, a2⟩ := run_counts (es₁ ++ e :: es₂) b
  obtain ⟨c1, c2⟩ := run_counts (es₁ ++ es₂) b
  simp only [List.map_append, List.map_cons, List.sum_append, List.sum_cons, ho, hs, Nat.zero_add] at a1 a2 c1 c2
  exact ⟨a1.trans c1.symm, a2.trans c2.symm⟩

end Adept.RecBuf
