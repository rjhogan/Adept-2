import AdeptModel.Views
/-!
Helper lemmas for C06 (views).  Core Lean only.

Every member function is treated the same way: a shape lemma (`…_ok`) says what a successful call returns, and from it
follows `…_viewOf`: the result is a view of the receiver through the operation's index map (`ViewOf`).  For `operator()`
the shape is established argument by argument (`updateIndex_ok`, then the one induction `sliceGo_ok`).  `run_viewOf`
composes the operations; the view constructors (`View.canon`) change neither addresses nor valid indices.
-/
namespace Adept.Views

theorem bind_ok {α β : Type} {x : Except Err α} {f : α → Except Err β} {b : β}
    (h : x >>= f = .ok b) : ∃ a, x = .ok a ∧ f a = .ok b := by
  cases x with
  | error e => cases h
  | ok a => exact ⟨a, rfl, h⟩

/-! ### the extent formula `(e + s - b)/s` (C++ division) -/

theorem extent_pos {b e s i : Int} {n : Nat} (hs : 0 < s)
    (hn : (n : Int) = (e + s - b).tdiv s) (hi0 : 0 ≤ i) (hin : i < n) :
    0 ≤ i * s ∧ i * s ≤ e - b := by
  have ha : 0 ≤ e + s - b := by
    false_or_by_contra
    rename_i hneg
    have h1 : 0 ≤ (-(e + s - b)).tdiv s := Int.tdiv_nonneg (by omega) (by omega)
    rw [Int.neg_tdiv] at h1
    omega
  rw [Int.tdiv_eq_ediv_of_nonneg ha] at hn
  have h2 : (e + s - b) / s * s ≤ e + s - b := Int.ediv_mul_le _ (by omega)
  have h3 : (i + 1) * s ≤ (n : Int) * s := Int.mul_le_mul_of_nonneg_right (by omega) (by omega)
  have h4 : 0 ≤ i * s := Int.mul_nonneg hi0 (by omega)
  rw [← hn] at h2
  have h5 : (i + 1) * s = i * s + s := by rw [Int.add_mul, Int.one_mul]
  omega

theorem extent_neg {b e s i : Int} {n : Nat} (hs : s < 0)
    (hn : (n : Int) = (e + s - b).tdiv s) (hi0 : 0 ≤ i) (hin : i < n) :
    i * s ≤ 0 ∧ e - b ≤ i * s := by
  have hn' : (n : Int) = (b + (-s) - e).tdiv (-s) := by
    rw [hn, ← Int.neg_tdiv_neg]
    congr 1
    omega
  have := extent_pos (by omega) hn' hi0 hin
  have h5 : i * -s = -(i * s) := Int.mul_neg i s
  omega

theorem range_elem_inRange {b e s i : Int} {len n : Nat}
    (hb : 0 ≤ b ∧ b < len) (he : 0 ≤ e ∧ e < len) (hs : s ≠ 0)
    (hn : (n : Int) = (e + s - b).tdiv s) (hi0 : 0 ≤ i) (hin : i < n) :
    0 ≤ b + i * s ∧ b + i * s < len := by
  rcases Int.lt_or_gt_of_ne hs with h | h
  · have := extent_neg h hn hi0 hin
    omega
  · have := extent_pos h hn hi0 hin
    omega


/-- the documented extent of `stride(b,e,s)`: ⌊|e-b|/|s|⌋ + 1 -/
theorem extent_documented_pos {b e s : Int} (hs : 0 < s) (hbe : b ≤ e) :
    (e + s - b).tdiv s = (e - b) / s + 1 := by
  rw [Int.tdiv_eq_ediv_of_nonneg (by omega)]
  have : e + s - b = (e - b) + 1 * s := by omega
  rw [this, Int.add_mul_ediv_right _ _ (by omega)]

theorem extent_documented_neg {b e s : Int} (hs : s < 0) (hbe : e ≤ b) :
    (e + s - b).tdiv s = (b - e) / (-s) + 1 := by
  have h := extent_documented_pos (b := e) (e := b) (s := -s) (by omega) hbe
  rw [← h, ← Int.neg_tdiv_neg]
  congr 1
  omega

theorem extent_maximal_pos {b e s : Int} (hs : 0 < s) (hbe : b ≤ e) :
    e < b + (e + s - b).tdiv s * s := by
  rw [extent_documented_pos hs hbe]
  have := Int.lt_ediv_add_one_mul_self (e - b) hs
  omega

theorem extent_maximal_neg {b e s : Int} (hs : s < 0) (hbe : e ≤ b) :
    b + (e + s - b).tdiv s * s < e := by
  rw [extent_documented_neg hs hbe]
  have := Int.lt_ediv_add_one_mul_self (b - e) (b := -s) (by omega)
  have h5 : ((b - e) / -s + 1) * -s = -(((b - e) / -s + 1) * s) := Int.mul_neg _ s
  omega

theorem extent_inconsistent {b e s : Int} (h : (0 < s ∧ e < b) ∨ (s < 0 ∧ b < e)) :
    (e + s - b).tdiv s ≤ 0 := by
  false_or_by_contra
  rename_i hpos
  have hn : (((e + s - b).tdiv s).toNat : Int) = (e + s - b).tdiv s := by omega
  rcases h with ⟨h1, h2⟩ | ⟨h1, h2⟩
  · have := extent_pos (i := 0) h1 hn (by omega) (by omega)
    omega
  · have := extent_neg (i := 0) h1 hn (by omega) (by omega)
    omega

theorem getIndex_eq (c : Bool) (e : EndExpr) (len : Nat) :
    getIndexWithLen c e len =
      if c = true ∧ ¬ (0 ≤ e.resolve len ∧ e.resolve len < len) then .error .index_out_of_bounds
      else .ok (e.resolve len) := by
  unfold getIndexWithLen
  cases c with
  | false => rfl
  | true =>
    by_cases h : 0 ≤ e.resolve len ∧ e.resolve len < len
    · rw [if_neg (by simp only [Bool.true_and, Bool.or_eq_true, decide_eq_true_eq]; omega), if_neg (fun h' => h'.2 h)]
    · rw [if_pos (by simp only [Bool.true_and, Bool.or_eq_true, decide_eq_true_eq]; omega), if_pos ⟨rfl, h⟩]

theorem getIndex_ok {c : Bool} {e : EndExpr} {len : Nat} {j : Int}
    (h : getIndexWithLen c e len = .ok j) :
    j = e.resolve len ∧ (c = true → 0 ≤ j ∧ j < len) := by
  rw [getIndex_eq] at h
  split at h
  · cases h
  · rename_i hc
    cases h
    exact ⟨rfl, fun hc' => Decidable.by_contra fun hn => hc ⟨hc', hn⟩⟩

theorem getIndex_of_inRange {c : Bool} {e : EndExpr} {len : Nat}
    (h : c = true → 0 ≤ e.resolve len ∧ e.resolve len < len) :
    getIndexWithLen c e len = .ok (e.resolve len) := by
  rw [getIndex_eq, if_neg fun h' => h'.2 (h h'.1)]

theorem getIndex_checked_oob {e : EndExpr} {len : Nat} (h : ¬ (0 ≤ e.resolve len ∧ e.resolve len < len)) :
    getIndexWithLen true e len = .error .index_out_of_bounds := by
  rw [getIndex_eq, if_pos ⟨rfl, h⟩]

theorem getIndex_err {c : Bool} {e : EndExpr} {len : Nat} {x : Err} (h : getIndexWithLen c e len = .error x) :
    x = .index_out_of_bounds ∧ c = true ∧ ¬ (0 ≤ e.resolve len ∧ e.resolve len < len) := by
  rw [getIndex_eq] at h
  split at h
  · rename_i hc
    cases h
    exact ⟨rfl, hc⟩
  · cases h

theorem updateRange_ok {c : Bool} {len : Nat} {off : Int} {b e : EndExpr} {s inc o : Int} {n : Nat}
    (h : updateRange c len off b e s = .ok (inc, n, o)) :
    inc = b.resolve len * off ∧ o = s * off ∧ s ≠ 0 ∧
    (n : Int) = (e.resolve len + s - b.resolve len).tdiv s ∧
    (c = true → (0 ≤ b.resolve len ∧ b.resolve len < len) ∧ (0 ≤ e.resolve len ∧ e.resolve len < len)) := by
  unfold updateRange at h
  obtain ⟨bi, hb, h⟩ := bind_ok h
  obtain ⟨ei, he, h⟩ := bind_ok h
  obtain ⟨rfl, hb2⟩ := getIndex_ok hb
  obtain ⟨rfl, he2⟩ := getIndex_ok he
  split at h
  · cases h
  · simp only at h
    split at h
    · cases h
    · cases h
      refine ⟨rfl, rfl, by assumption, by omega, fun hc => ⟨hb2 hc, he2 hc⟩⟩

theorem updateRange_of_adm {c : Bool} {len : Nat} {off : Int} {b e : EndExpr} {s : Int}
    (h : (0 ≤ b.resolve len ∧ b.resolve len < len) ∧ (0 ≤ e.resolve len ∧ e.resolve len < len)) :
    updateRange c len off b e s = updateRange false len off b e s := by
  simp only [updateRange, getIndex_of_inRange fun _ : c = true => h.1, getIndex_of_inRange fun _ : c = true => h.2,
    getIndex_of_inRange (c := false) (e := b) nofun, getIndex_of_inRange (c := false) (e := e) nofun]


/-- end points of argument `a` for a dimension of length `len` are valid indices -/
def ArgAdm (len : Nat) : Ix → Prop
  | .at e => 0 ≤ e.resolve len ∧ e.resolve len < len
  | .range b e => (0 ≤ b.resolve len ∧ b.resolve len < len) ∧ (0 ≤ e.resolve len ∧ e.resolve len < len)
  | .stride b e _ => (0 ≤ b.resolve len ∧ b.resolve len < len) ∧ (0 ≤ e.resolve len ∧ e.resolve len < len)
  | .all => True

def ArgsAdm : List Nat → List Ix → Prop
  | d :: ds, a :: as => ArgAdm d a ∧ ArgsAdm ds as
  | _, _ => True

/-- the parent coordinate that coordinate `i` of the result denotes under argument `a` (a scalar argument consumes no
    `i`): one entry of `expandSlice` -/
def Ix.index (len : Nat) : Ix → Int → Int
  | .at e, _ => e.resolve len
  | .range b _, i => b.resolve len + i
  | .stride b _ s, i => b.resolve len + i * s.resolve len
  | .all, i => i

theorem expandSlice_at (d : Nat) (ds : List Nat) (e : EndExpr) (as : List Ix) (ix : List Int) :
    expandSlice (d :: ds) (.at e :: as) ix = (Ix.at e).index d 0 :: expandSlice ds as ix := rfl

theorem expandSlice_ranged {a : Ix} (ha : ∀ e, a ≠ .at e) (d : Nat) (ds : List Nat) (as : List Ix) (i : Int) (ix : List Int) :
    expandSlice (d :: ds) (a :: as) (i :: ix) = a.index d i :: expandSlice ds as ix := by
  cases a with
  | «at» e => exact absurd rfl (ha e)
  | _ => rfl

theorem updateIndex_at (c : Bool) (len : Nat) (off : Int) (e : EndExpr) :
    updateIndex c len off (.at e) = (do let j ← getIndexWithLen c e len; .ok (j * off, none)) := rfl

theorem updateIndex_range (c : Bool) (len : Nat) (off : Int) (b e : EndExpr) :
    updateIndex c len off (.range b e) =
      (do let (inc, n, o) ← updateRange c len off b e 1; .ok (inc, some (n, o))) := rfl

theorem updateIndex_stride (c : Bool) (len : Nat) (off : Int) (b e s : EndExpr) :
    updateIndex c len off (.stride b e s) =
      (do let (inc, n, o) ← updateRange c len off b e (s.resolve len); .ok (inc, some (n, o))) := rfl

theorem sliceGo_cons (c : Bool) (d : Nat) (ds : List Nat) (s : Int) (ss : List Int) (a : Ix) (as : List Ix) :
    sliceGo c (d :: ds) (s :: ss) (a :: as) = (do
      let (inc, nd) ← updateIndex c d s a
      let (rest, nds, nss) ← sliceGo c ds ss as
      match nd with
      | none => .ok (inc + rest, nds, nss)
      | some (n, o) => .ok (inc + rest, n :: nds, o :: nss)) := rfl

/-- number of ranged (non-scalar) arguments: the rank `is_ranged<…>::count` of the result -/
def rangedCount : List Ix → Nat
  | [] => 0
  | .at _ :: as => rangedCount as
  | _ :: as => rangedCount as + 1

theorem rangedCount_ranged {a : Ix} (ha : ∀ e, a ≠ .at e) (as : List Ix) : rangedCount (a :: as) = rangedCount as + 1 := by
  cases a with
  | «at» e => exact absurd rfl (ha e)
  | _ => rfl

/-- one `update_index` step: a scalar argument returns no dimension, a ranged one extent `n` and offset `o` that put
    element `i` at the parent coordinate `a.index len i` -/
theorem updateIndex_ok {c : Bool} {len : Nat} {off : Int} {a : Ix} {inc : Int} {nd : Option (Nat × Int)}
    (h : updateIndex c len off a = .ok (inc, nd)) :
    (c = true → ArgAdm len a) ∧
    match nd with
    | none => (∃ e, a = .at e) ∧ inc = a.index len 0 * off
    | some (n, o) => (∀ e, a ≠ .at e) ∧ (∀ i : Int, inc + i * o = a.index len i * off) ∧
        (ArgAdm len a → ∀ i : Int, 0 ≤ i → i < n → 0 ≤ a.index len i ∧ a.index len i < len) := by
  have ranged : ∀ {b e : EndExpr} {s : Int} {r : Int × Nat × Int}, updateRange c len off b e s = .ok r →
      (c = true → (0 ≤ b.resolve len ∧ b.resolve len < len) ∧ (0 ≤ e.resolve len ∧ e.resolve len < len)) ∧
      (∀ i : Int, r.1 + i * r.2.2 = (b.resolve len + i * s) * off) ∧
      ((0 ≤ b.resolve len ∧ b.resolve len < len) ∧ (0 ≤ e.resolve len ∧ e.resolve len < len) →
        ∀ i : Int, 0 ≤ i → i < r.2.1 → 0 ≤ b.resolve len + i * s ∧ b.resolve len + i * s < len) := by
    intro b e s r hr
    obtain ⟨i, n, o⟩ := r
    obtain ⟨rfl, rfl, hs, hn, hc⟩ := updateRange_ok hr
    exact ⟨hc, fun i => by rw [Int.add_mul, Int.mul_assoc], fun hadm i hi0 hin => range_elem_inRange hadm.1 hadm.2 hs hn hi0 hin⟩
  cases a with
  | «at» e =>
    obtain ⟨j, hj, h⟩ := bind_ok h
    cases h
    obtain ⟨rfl, hc⟩ := getIndex_ok hj
    exact ⟨hc, ⟨e, rfl⟩, rfl⟩
  | range b e =>
    obtain ⟨r, hr, h⟩ := bind_ok h
    cases h
    obtain ⟨h1, h2, h3⟩ := ranged hr
    refine ⟨h1, nofun, fun i => ?_, fun hadm i hi0 hin => ?_⟩
    · simpa only [Ix.index, Int.mul_one] using h2 i
    · simpa only [Ix.index, Int.mul_one] using h3 hadm i hi0 hin
  | stride b e s =>
    obtain ⟨r, hr, h⟩ := bind_ok h
    cases h
    obtain ⟨h1, h2, h3⟩ := ranged hr
    exact ⟨h1, nofun, h2, h3⟩
  | all =>
    cases h
    exact ⟨fun _ => trivial, nofun, fun i => by simp only [Ix.index, Int.zero_add], fun _ i hi0 hin => ⟨hi0, hin⟩⟩


/-- everything a successful `operator()` argument loop establishes, in one induction -/
theorem sliceGo_ok (c : Bool) (ds : List Nat) (ss : List Int) (as : List Ix) :
    ∀ {inc : Int} {nd : List Nat} {ns : List Int}, sliceGo c ds ss as = .ok (inc, nd, ns) →
    as.length = ds.length ∧ nd.length = rangedCount as ∧ nd.length = ns.length ∧ (c = true → ArgsAdm ds as) ∧
    ∀ ix : List Int, ix.length = nd.length →
      (expandSlice ds as ix).length = ds.length ∧ inc + dot ix ns = dot (expandSlice ds as ix) ss ∧
      (ArgsAdm ds as → InRange ix nd → InRange (expandSlice ds as ix) ds) := by
  fun_induction sliceGo c ds ss as with
  | case1 =>
    intro inc nd ns h
    cases h
    refine ⟨rfl, rfl, rfl, fun _ => trivial, fun ix hix => ?_⟩
    cases ix with
    | nil => exact ⟨rfl, rfl, fun _ _ => trivial⟩
    | cons i ix => cases hix
  | case2 d ds s ss a as ih =>
    intro inc nd ns h
    obtain ⟨⟨i1, o1⟩, hu, h⟩ := bind_ok h
    obtain ⟨⟨i2, nd2, ns2⟩, hr, h⟩ := bind_ok h
    obtain ⟨hlen, hrank, hwf, hadm, hix⟩ := ih hr
    obtain ⟨ha, hstep⟩ := updateIndex_ok hu
    cases o1 with
    | none =>
      cases h
      obtain ⟨⟨e, rfl⟩, hi1⟩ := hstep
      refine ⟨congrArg (· + 1) hlen, hrank, hwf, fun hc => ⟨ha hc, hadm hc⟩, fun ix hl => ?_⟩
      obtain ⟨g1, g2, g3⟩ := hix ix hl
      rw [expandSlice_at]
      exact ⟨congrArg (· + 1) g1, by simp only [dot]; omega, fun hA hin => ⟨hA.1, g3 hA.2 hin⟩⟩
    | some p =>
      obtain ⟨n, o⟩ := p
      cases h
      obtain ⟨hne, hi1, hrange⟩ := hstep
      refine ⟨congrArg (· + 1) hlen, ?_, congrArg (· + 1) hwf, fun hc => ⟨ha hc, hadm hc⟩, fun ix hl => ?_⟩
      · rw [rangedCount_ranged hne]; exact congrArg (· + 1) hrank
      · cases ix with
        | nil => cases hl
        | cons i ix =>
          obtain ⟨g1, g2, g3⟩ := hix ix (Nat.succ.inj hl)
          have := hi1 i
          rw [expandSlice_ranged hne]
          exact ⟨congrArg (· + 1) g1, by simp only [dot]; omega,
            fun hA hin => ⟨hrange hA.1 i hin.1.1 hin.1.2, g3 hA.2 hin.2⟩⟩
  | case3 => nofun


theorem InRange_length : ∀ {ix : List Int} {ds : List Nat}, InRange ix ds → ix.length = ds.length
  | [], [], _ => rfl
  | _ :: _, _ :: _, h => congrArg (· + 1) (InRange_length h.2)
  | [], _ :: _, h => h.elim
  | _ :: _, [], h => h.elim

theorem length_eq_two {ix : List Int} (h : ix.length = 2) : ∃ i j, ix = [i, j] :=
  match ix, h with
  | [i, j], _ => ⟨i, j, rfl⟩

/-- `w` is a view of `v` through the index map `f`: element `ix` of `w` is element `f ix` of `v`, and `f ix` is a valid
    index of `v` for every valid `ix` provided `adm` holds (what the operation that made `w` needs from its caller). -/
structure ViewOf (w v : View) (f : List Int → List Int) (adm : Prop) : Prop where
  wf : w.WF
  addr_eq : ∀ ix : List Int, ix.length = w.dims.length → (f ix).length = v.dims.length ∧ addr w ix = addr v (f ix)
  inRange : adm → ∀ ix : List Int, InRange ix w.dims → InRange (f ix) v.dims

theorem ViewOf.mono {w v : View} {f : List Int → List Int} {adm adm' : Prop} (h : ViewOf w v f adm) (ha : adm' → adm) :
    ViewOf w v f adm' :=
  ⟨h.wf, h.addr_eq, fun h' => h.inRange (ha h')⟩

theorem ViewOf.refl {v : View} (hwf : v.WF) : ViewOf v v (fun ix => ix) True :=
  ⟨hwf, fun _ hix => ⟨hix, rfl⟩, fun _ _ hix => hix⟩

theorem sliceRaw_ok {v w : View} {args : List Ix} {c : Bool} (h : sliceRaw v args c = .ok w) :
    ∃ inc, sliceGo c v.dims v.strides args = .ok (inc, w.dims, w.strides) ∧ w.base = v.base + inc := by
  obtain ⟨⟨inc, nd, ns⟩, hg, h⟩ := bind_ok h
  cases h
  exact ⟨inc, hg, rfl⟩

/-- `operator()` with scalar/range/stride/`__` arguments -/
theorem sliceRaw_viewOf {v w : View} {args : List Ix} {c : Bool} (h : sliceRaw v args c = .ok w) :
    ViewOf w v (expandSlice v.dims args) (c = true ∨ ArgsAdm v.dims args) := by
  obtain ⟨inc, hg, hb⟩ := sliceRaw_ok h
  obtain ⟨_, _, hwf, hc, hix⟩ := sliceGo_ok c _ _ _ hg
  refine ⟨hwf, fun ix hl => ⟨(hix ix hl).1, ?_⟩,
    fun hadm ix hin => (hix ix (InRange_length hin)).2.2 (hadm.elim hc id) hin⟩
  have := (hix ix hl).2.1
  simp only [addr, hb]
  omega

/-- the C++ result is meaningful: non-zero stride and a non-negative extent -/
def ArgDefined (len : Nat) : Ix → Prop
  | .range b e => 0 ≤ (e.resolve len + 1 - b.resolve len).tdiv 1
  | .stride b e s => s.resolve len ≠ 0 ∧ 0 ≤ (e.resolve len + s.resolve len - b.resolve len).tdiv (s.resolve len)
  | _ => True

def ArgsDefined : List Nat → List Ix → Prop
  | d :: ds, a :: as => ArgDefined d a ∧ ArgsDefined ds as
  | _, _ => True

theorem updateRange_checked_oob {len : Nat} {off : Int} {b e : EndExpr} {s : Int}
    (h : ¬ ((0 ≤ b.resolve len ∧ b.resolve len < len) ∧ (0 ≤ e.resolve len ∧ e.resolve len < len))) :
    updateRange true len off b e s = .error .index_out_of_bounds := by
  unfold updateRange
  by_cases hb : 0 ≤ b.resolve len ∧ b.resolve len < len
  · rw [getIndex_of_inRange fun _ => hb, getIndex_checked_oob fun he => h ⟨hb, he⟩]
    rfl
  · rw [getIndex_checked_oob hb]
    rfl

theorem updateRange_checked_total {len : Nat} {off : Int} {b e : EndExpr} {s : Int}
    (h : (0 ≤ b.resolve len ∧ b.resolve len < len) ∧ (0 ≤ e.resolve len ∧ e.resolve len < len))
    (hs : s ≠ 0) (hn : 0 ≤ (e.resolve len + s - b.resolve len).tdiv s) :
    ∃ r, updateRange true len off b e s = .ok r := by
  unfold updateRange
  rw [getIndex_of_inRange fun _ => h.1, getIndex_of_inRange fun _ => h.2]
  refine ⟨(b.resolve len * off, ((e.resolve len + s - b.resolve len).tdiv s).toNat, s * off), ?_⟩
  show (if s = 0 then _ else if (e.resolve len + s - b.resolve len).tdiv s < 0 then _ else _) = _
  rw [if_neg hs, if_neg (Int.not_lt.mpr hn)]

theorem updateIndex_checked_oob {len : Nat} {off : Int} {a : Ix} (h : ¬ ArgAdm len a) :
    updateIndex true len off a = .error .index_out_of_bounds := by
  cases a with
  | «at» e =>
    rw [updateIndex_at, getIndex_checked_oob h]
    rfl
  | range b e =>
    rw [updateIndex_range, updateRange_checked_oob h]
    rfl
  | stride b e s =>
    rw [updateIndex_stride, updateRange_checked_oob h]
    rfl
  | all => exact absurd trivial h

theorem updateIndex_checked_total {len : Nat} {off : Int} {a : Ix} (h : ArgAdm len a) (hd : ArgDefined len a) :
    ∃ r, updateIndex true len off a = .ok r := by
  cases a with
  | «at» e =>
    rw [updateIndex_at, getIndex_of_inRange fun _ => h]
    exact ⟨_, rfl⟩
  | range b e =>
    obtain ⟨r, hr⟩ := updateRange_checked_total (off := off) h (by omega) hd
    rw [updateIndex_range, hr]
    exact ⟨_, rfl⟩
  | stride b e s =>
    obtain ⟨r, hr⟩ := updateRange_checked_total (off := off) h hd.1 hd.2
    rw [updateIndex_stride, hr]
    exact ⟨_, rfl⟩
  | all => exact ⟨_, rfl⟩

theorem sliceGo_checked_rejects : ∀ (ds : List Nat) (ss : List Int) (as : List Ix),
    ds.length = ss.length → ds.length = as.length → ArgsDefined ds as → ¬ ArgsAdm ds as →
    sliceGo true ds ss as = .error .index_out_of_bounds
  | [], _, _, _, _, _, h => absurd trivial h
  | _ :: _, [], _, h1, _, _, _ => nomatch h1
  | _ :: _, _ :: _, [], _, h2, _, _ => nomatch h2
  | d :: ds, s :: ss, a :: as, h1, h2, hd, h => by
    rw [sliceGo_cons]
    by_cases ha : ArgAdm d a
    · obtain ⟨r, hr⟩ := updateIndex_checked_total (off := s) ha hd.1
      rw [hr, sliceGo_checked_rejects ds ss as (Nat.succ.inj h1) (Nat.succ.inj h2) hd.2 fun hr => h ⟨ha, hr⟩]
      rfl
    · rw [updateIndex_checked_oob ha]
      rfl

theorem updateIndex_of_adm {c : Bool} {len : Nat} {off : Int} {a : Ix} (h : ArgAdm len a) :
    updateIndex c len off a = updateIndex false len off a := by
  cases a with
  | «at» e =>
    rw [updateIndex_at, updateIndex_at, getIndex_of_inRange fun _ : c = true => h, getIndex_of_inRange (c := false) nofun]
  | range b e =>
    rw [updateIndex_range, updateIndex_range, updateRange_of_adm h]
  | stride b e s =>
    rw [updateIndex_stride, updateIndex_stride, updateRange_of_adm h]
  | all => rfl

theorem sliceGo_checked_imp (ds : List Nat) (ss : List Int) (as : List Ix) :
    ∀ {r : Int × List Nat × List Int}, sliceGo true ds ss as = .ok r → sliceGo false ds ss as = .ok r := by
  fun_induction sliceGo true ds ss as with
  | case1 => exact id
  | case2 d ds s ss a as ih =>
    intro r h
    obtain ⟨q, hu, h⟩ := bind_ok h
    obtain ⟨q2, hr, h⟩ := bind_ok h
    rw [sliceGo_cons, ← updateIndex_of_adm ((updateIndex_ok hu).1 rfl), hu, ih hr]
    exact h
  | case3 => nofun

theorem sub1Raw_ok {v w : View} {e : EndExpr} {c : Bool} (h : sub1Raw v e c = .ok w) :
    ∃ d ds s ss, v.dims = d :: ds ∧ v.strides = s :: ss ∧ w = ⟨v.base + e.resolve d * s, ds, ss⟩ ∧
      (c = true → 0 ≤ e.resolve d ∧ e.resolve d < d) := by
  unfold sub1Raw at h
  split at h
  · rename_i d ds s ss hd hs
    obtain ⟨j, hj, h⟩ := bind_ok h
    obtain ⟨rfl, h2⟩ := getIndex_ok hj
    cases h
    exact ⟨d, ds, s, ss, hd, hs, rfl, h2⟩
  · cases h

theorem sub1Raw_viewOf {v w : View} {e : EndExpr} {c : Bool} (hwf : v.WF) (h : sub1Raw v e c = .ok w) :
    ViewOf w v (e.resolve (v.dims.headD 0) :: ·)
      (c = true ∨ (0 ≤ e.resolve (v.dims.headD 0) ∧ e.resolve (v.dims.headD 0) < v.dims.headD 0)) := by
  obtain ⟨d, ds, s, ss, hd, hs, rfl, hc⟩ := sub1Raw_ok h
  unfold View.WF at hwf
  rw [hd, hs] at hwf
  refine ⟨Nat.succ.inj hwf, fun ix hix => ?_, fun hadm ix hix => ?_⟩
  · rw [hd]
    exact ⟨congrArg (· + 1) hix, by simp only [addr, hs, List.headD_cons, dot]; omega⟩
  · rw [hd] at hadm ⊢
    exact ⟨hadm.elim hc id, hix⟩

theorem transpose_ok {v w : View} (h : transpose v = .ok w) :
    ∃ d0 d1 s0 s1, v.dims = [d0, d1] ∧ v.strides = [s0, s1] ∧ w = ⟨v.base, [d1, d0], [s1, s0]⟩ := by
  unfold transpose at h
  split at h
  · rename_i d0 d1 s0 s1 hd hs
    cases h
    exact ⟨d0, d1, s0, s1, hd, hs, rfl⟩
  · cases h

theorem transpose_viewOf {v w : View} (h : transpose v = .ok w) : ViewOf w v (expandOp v .T) True := by
  obtain ⟨d0, d1, s0, s1, hd, hs, rfl⟩ := transpose_ok h
  refine ⟨rfl, fun ix hix => ?_, fun _ ix hix => ?_⟩
  · obtain ⟨i, j, rfl⟩ := length_eq_two hix
    refine ⟨(congrArg List.length hd).symm, ?_⟩
    unfold addr
    rw [hs]
    show v.base + (i * s1 + (j * s0 + 0)) = v.base + (j * s0 + (i * s1 + 0))
    omega
  · obtain ⟨i, j, rfl⟩ := length_eq_two (InRange_length hix)
    rw [hd]
    exact ⟨hix.2.1, hix.1, trivial⟩

theorem dot_tabulate_zero : ∀ (n k : Nat) (ss : List Int), dot (tabulate (fun _ => 0) k n) ss = 0 := by
  intro n
  induction n with
  | zero => intro k ss; simp [tabulate, dot]
  | succ n ih =>
    intro k ss
    cases ss with
    | nil => simp [tabulate, dot]
    | cons s ss => simp [tabulate, dot, ih]

/-- adding `x` to coordinate `p` adds `x·stride_p` to the address -/
theorem dot_tabulate_single (p x : Int) (hp : 0 ≤ p) (f : Nat → Int) : ∀ (ss : List Int) (k : Nat),
    dot (tabulate (fun d => (if p = (d : Int) then x else 0) + f d) k ss.length) ss =
      (if k ≤ p.toNat ∧ p.toNat < k + ss.length then x * ss.getD (p.toNat - k) 0 else 0) +
        dot (tabulate f k ss.length) ss := by
  intro ss
  induction ss with
  | nil =>
    intro k
    simp [tabulate, dot]
  | cons s ss ih =>
    intro k
    show ((if p = (k : Int) then x else 0) + f k) * s + dot (tabulate _ (k + 1) ss.length) ss =
      _ + (f k * s + dot (tabulate f (k + 1) ss.length) ss)
    rw [ih, Int.add_mul, List.length_cons]
    by_cases h1 : p = (k : Int)
    · have hk : p.toNat - k = 0 := by omega
      rw [if_pos h1, if_neg (by omega), if_pos (by omega), hk, List.getD_cons_zero]
      omega
    · by_cases h2 : k + 1 ≤ p.toNat ∧ p.toNat < k + 1 + ss.length
      · have h4 : p.toNat - k = (p.toNat - (k + 1)) + 1 := by omega
        rw [if_neg h1, if_pos h2, if_pos (by omega), h4, List.getD_cons_succ]
        omega
      · rw [if_neg h1, if_neg h2, if_neg (by omega)]
        omega

theorem scatterAt_nil_left (ix : List Int) : scatterAt [] ix = fun _ => 0 := by
  funext d; simp [scatterAt]

theorem scatterAt_nil_right (p : List Int) : scatterAt p [] = fun _ => 0 := by
  funext d; cases p <;> simp [scatterAt]

theorem scatterAt_cons (p : Int) (ps : List Int) (i : Int) (ix : List Int) :
    scatterAt (p :: ps) (i :: ix) = fun (d : Nat) => (if p = (d : Int) then i else 0) + scatterAt ps ix d := by
  funext d; simp [scatterAt]

/-- Σ_d (parent coordinate d)·stride_d = Σ_i ix_i·stride_{p i}: holds for every `p` with entries in
    range (a permutation is not needed for the address equation) -/
theorem dot_scatter (ss : List Int) : ∀ (p ix : List Int), (∀ x ∈ p, 0 ≤ x ∧ x < (ss.length : Int)) →
    dot (tabulate (scatterAt p ix) 0 ss.length) ss = dot ix (p.map fun x => ss.getD x.toNat 0) := by
  intro p
  induction p with
  | nil => intro ix _; rw [scatterAt_nil_left, dot_tabulate_zero]; cases ix <;> simp [dot]
  | cons x ps ih =>
    intro ix hp
    cases ix with
    | nil => rw [scatterAt_nil_right, dot_tabulate_zero]; simp [dot]
    | cons i ix =>
      have hx := hp x (by simp)
      rw [scatterAt_cons, dot_tabulate_single x i hx.1, ih ix (fun y hy => hp y (by simp [hy]))]
      rw [if_pos (by omega)]
      simp [dot]

theorem tabulate_length (f : Nat → Int) : ∀ (n k : Nat), (tabulate f k n).length = n := by
  intro n
  induction n with
  | zero => intro k; rfl
  | succ n ih => intro k; simp [tabulate, ih]

theorem permuteGo_ok (dims : List Nat) (strides : List Int) (p : List Int) : ∀ {nd : List Nat} {ns : List Int},
    permuteGo dims strides p = .ok (nd, ns) →
    nd = p.map (fun x => dims.getD x.toNat 0) ∧ ns = p.map (fun x => strides.getD x.toNat 0) ∧
    ∀ x ∈ p, 0 ≤ x ∧ x < (dims.length : Int) := by
  fun_induction permuteGo dims strides p with
  | case1 =>
    intro nd ns h
    cases h
    exact ⟨rfl, rfl, nofun⟩
  | case2 x ps hx ih =>
    intro nd ns h
    obtain ⟨⟨nd2, ns2⟩, hr, h⟩ := bind_ok h
    cases h
    obtain ⟨rfl, rfl, h3⟩ := ih hr
    exact ⟨rfl, rfl, List.forall_mem_cons.mpr ⟨hx, h3⟩⟩
  | case3 => nofun

/-- `p` lists every dimension `0 … r-1` exactly once -/
def IsPerm (p : List Int) (r : Nat) : Prop := p.length = r ∧ ∀ d : Nat, d < r → p.count (d : Int) = 1

/-- the second loop of `permute` ("Missing dimension") counts the entries equal to each dimension -/
theorem count_of_filter {p : List Int} {n : Nat}
    (h : ((List.range n).any fun d => decide ((p.filter (· = (d : Int))).length ≠ 1)) = false) :
    ∀ d : Nat, d < n → p.count (d : Int) = 1 := by
  intro d hd
  have h1 := List.any_eq_false.mp h d (List.mem_range.mpr hd)
  rw [decide_eq_true_eq, Decidable.not_not] at h1
  rw [List.count_eq_countP, List.countP_eq_length_filter]
  exact (congrArg List.length (List.filter_congr fun x _ => (by rfl : (x == (d : Int)) = decide (x = (d : Int))))).trans h1

/-- the two loops of `permute` together test that `p` is a permutation -/
theorem permuteRaw_ok {v w : View} {p : List Int} (h : permuteRaw v p = .ok w) :
    IsPerm p v.dims.length ∧ v.dims.length = v.strides.length ∧
    w = ⟨v.base, p.map (fun x => v.dims.getD x.toNat 0), p.map (fun x => v.strides.getD x.toNat 0)⟩ ∧
    (∀ x ∈ p, 0 ≤ x ∧ x < (v.dims.length : Int)) ∧ ∀ d ∈ w.dims, d ≠ 0 := by
  unfold permuteRaw at h
  split at h
  · cases h
  · rename_i h0
    split at h
    · cases h
    · obtain ⟨⟨nd, ns⟩, hr, h⟩ := bind_ok h
      dsimp only at h
      split at h
      · cases h
      · rename_i hno
        cases h
        obtain ⟨rfl, rfl, h3⟩ := permuteGo_ok _ _ _ hr
        obtain ⟨hcnt, hpos⟩ := Bool.or_eq_false_iff.mp (Bool.eq_false_iff.mpr hno)
        refine ⟨⟨by omega, count_of_filter hcnt⟩, by omega, rfl, h3, fun d hd hd0 => ?_⟩
        exact List.any_eq_false.mp hpos d hd (beq_iff_eq.mpr hd0)

theorem scatterAt_count_zero (d : Nat) : ∀ (p ix : List Int), p.count (d : Int) = 0 → scatterAt p ix d = 0 := by
  intro p
  induction p with
  | nil => intro ix _; simp [scatterAt]
  | cons x ps ih =>
    intro ix h
    cases ix with
    | nil => simp [scatterAt]
    | cons i ix =>
      rw [List.count_cons] at h
      have hx : ¬ x = (d : Int) := by
        intro hx; subst hx; simp at h
      simp [scatterAt, hx, ih ix (by omega)]

theorem scatterAt_count_one (dims : List Nat) (d : Nat) : ∀ (p ix : List Int), p.count (d : Int) = 1 →
    InRange ix (p.map fun x => dims.getD x.toNat 0) →
    0 ≤ scatterAt p ix d ∧ scatterAt p ix d < (dims.getD d 0 : Nat) := by
  intro p
  induction p with
  | nil => intro ix h; simp at h
  | cons x ps ih =>
    intro ix h hix
    cases ix with
    | nil => simp [InRange] at hix
    | cons i ix =>
      simp only [List.map_cons, InRange] at hix
      rw [List.count_cons] at h
      by_cases hx : x = (d : Int)
      · subst hx
        simp at h
        have := scatterAt_count_zero d ps ix h
        simp only [scatterAt, this, if_true]
        have h5 := hix.1
        rw [Int.toNat_natCast] at h5
        omega
      · have hc : ps.count (d : Int) = 1 := by
          have : (x == (d : Int)) = false := by simpa using hx
          simpa [this] using h
        have := ih ix hc hix.2
        simp only [scatterAt, hx, if_false]
        omega

theorem inRange_tabulate (f : Nat → Int) : ∀ (ds : List Nat) (k : Nat),
    (∀ j, j < ds.length → 0 ≤ f (k + j) ∧ f (k + j) < (ds.getD j 0 : Nat)) →
    InRange (tabulate f k ds.length) ds := by
  intro ds
  induction ds with
  | nil => intro k _; simp [tabulate, InRange]
  | cons d ds ih =>
    intro k h
    simp only [List.length_cons, tabulate, InRange]
    refine ⟨by simpa using h 0 (by simp), ih (k + 1) ?_⟩
    intro j hj
    have := h (j + 1) (by simp; omega)
    have e : k + (j + 1) = k + 1 + j := by omega
    simpa [e] using this

theorem permuteRaw_viewOf {v w : View} {p : List Int} (h : permuteRaw v p = .ok w) :
    ViewOf w v (expandPermute v.dims.length p) True := by
  obtain ⟨hp, h2, rfl, h4, _⟩ := permuteRaw_ok h
  refine ⟨by simp [View.WF], fun ix _ => ⟨tabulate_length _ _ _, ?_⟩, fun _ ix hix => ?_⟩
  · simp only [addr, expandPermute]
    rw [h2] at h4 ⊢
    rw [dot_scatter v.strides p ix h4]
  · apply inRange_tabulate
    intro j hj
    rw [Nat.zero_add]
    exact scatterAt_count_one v.dims j p ix (hp.2 j hj) hix

/-- `diag_vector(k)` succeeds on an `empty()` matrix and on a square one with `|k| ≤ n` (extent `n - |k|`) -/
theorem diagRaw_ok {v w : View} {k : Int} (h : diagVectorRaw v k = .ok w) :
    ∃ d0 d1 s0 s1 n, v.dims = [d0, d1] ∧ v.strides = [s0, s1] ∧
      w = ⟨if k ≥ 0 then v.base + s1 * k else v.base - s0 * k, [n], [s0 + s1]⟩ ∧
      (d0 = 0 ∧ n = 0 ∨ d0 ≠ 0 ∧ d0 = d1 ∧ (n : Int) + k.natAbs = d0) := by
  unfold diagVectorRaw at h
  split at h
  · rename_i d0 d1 s0 s1 hd hs
    refine ⟨d0, d1, s0, s1, ?_⟩
    by_cases h0 : d0 = 0
    · rw [if_pos h0] at h
      cases h
      exact ⟨0, hd, hs, rfl, Or.inl ⟨h0, rfl⟩⟩
    · rw [if_neg h0] at h
      by_cases hsq : d0 = d1
      · rw [if_neg (fun hne => hne hsq)] at h
        by_cases hk : k ≥ 0
        · rw [if_pos hk] at h
          dsimp only at h
          split at h
          · cases h
          · cases h
            exact ⟨_, hd, hs, by rw [if_pos hk], Or.inr ⟨h0, hsq, by omega⟩⟩
        · rw [if_neg hk] at h
          dsimp only at h
          split at h
          · cases h
          · cases h
            exact ⟨_, hd, hs, by rw [if_neg hk], Or.inr ⟨h0, hsq, by omega⟩⟩
      · rw [if_pos hsq] at h
        cases h
  · cases h

theorem diagRaw_viewOf {v w : View} {k : Int} (h : diagVectorRaw v k = .ok w) : ViewOf w v (expandOp v (.diag k)) True := by
  obtain ⟨d0, d1, s0, s1, n, hd, hs, rfl, hn⟩ := diagRaw_ok h
  have e : ∀ i, expandOp v (.diag k) [i] = if k ≥ 0 then [i, i + k] else [i - k, i] := fun _ => rfl
  refine ⟨rfl, fun ix hix => ?_, fun _ ix hix => ?_⟩
  · obtain ⟨i, rfl⟩ := List.length_eq_one_iff.mp hix
    rw [e, hd]
    unfold addr
    rw [hs]
    by_cases hk : k ≥ 0
    · rw [if_pos hk, if_pos hk]
      refine ⟨rfl, ?_⟩
      show v.base + s1 * k + (i * (s0 + s1) + 0) = v.base + (i * s0 + ((i + k) * s1 + 0))
      rw [Int.mul_add, Int.add_mul, Int.mul_comm s1 k]
      omega
    · rw [if_neg hk, if_neg hk]
      refine ⟨rfl, ?_⟩
      show v.base - s0 * k + (i * (s0 + s1) + 0) = v.base + ((i - k) * s0 + (i * s1 + 0))
      rw [Int.mul_add, Int.sub_mul, Int.mul_comm s0 k]
      omega
  · obtain ⟨i, rfl⟩ := List.length_eq_one_iff.mp (InRange_length hix)
    obtain ⟨⟨hi0, hin⟩, _⟩ := hix
    rw [e, hd]
    rcases hn with ⟨_, rfl⟩ | ⟨_, rfl, hn⟩
    · omega
    · by_cases hk : k ≥ 0
      · rw [if_pos hk]
        have : i < d0 ∧ 0 ≤ i + k ∧ i + k < d0 := by omega
        exact ⟨⟨hi0, this.1⟩, this.2, trivial⟩
      · rw [if_neg hk]
        have : (0 ≤ i - k ∧ i - k < d0) ∧ i < d0 := by omega
        exact ⟨this.1, ⟨hi0, this.2⟩, trivial⟩

theorem subdiagRaw_ok {v w : View} {b e : Int} (h : submatrixOnDiagonalRaw v b e = .ok w) :
    ∃ d s0 s1, v.dims = [d, d] ∧ v.strides = [s0, s1] ∧ 0 ≤ b ∧ b ≤ e ∧ e < d ∧
      w = ⟨v.base + b * (s0 + s1), [(e - b + 1).toNat, (e - b + 1).toNat], [s0, s1]⟩ := by
  unfold submatrixOnDiagonalRaw at h
  split at h
  · rename_i d0 d1 s0 s1 hd hs
    split at h
    · cases h
    · rename_i hsq
      have hsq' : d0 = d1 := by simpa using hsq
      subst hsq'
      split at h
      · cases h
      · cases h
        exact ⟨d0, s0, s1, hd, hs, by omega, by omega, by omega, rfl⟩
  · cases h

theorem subdiagRaw_viewOf {v w : View} {b e : Int} (h : submatrixOnDiagonalRaw v b e = .ok w) :
    ViewOf w v (expandOp v (.subdiag b e)) True := by
  obtain ⟨d, s0, s1, hd, hs, h0, h1, h2, rfl⟩ := subdiagRaw_ok h
  refine ⟨rfl, fun ix hix => ?_, fun _ ix hix => ?_⟩
  · obtain ⟨i, j, rfl⟩ := length_eq_two hix
    refine ⟨(congrArg List.length hd).symm, ?_⟩
    unfold addr
    rw [hs]
    show v.base + b * (s0 + s1) + (i * s0 + (j * s1 + 0)) = v.base + ((i + b) * s0 + ((j + b) * s1 + 0))
    rw [Int.mul_add, Int.add_mul, Int.add_mul]
    omega
  · obtain ⟨i, j, rfl⟩ := length_eq_two (InRange_length hix)
    obtain ⟨⟨a1, a2⟩, ⟨a3, a4⟩, _⟩ := hix
    rw [hd]
    have : (0 ≤ i + b ∧ i + b < d) ∧ (0 ≤ j + b ∧ j + b < d) := by omega
    exact ⟨this.1, this.2, trivial⟩

theorem reshapeStrides_spec (s0 : Int) : ∀ (ds : List Nat), ds ≠ [] →
    ∃ o os, reshapeStrides s0 ds = o :: os ∧ o = prodInt (ds.tail.map Int.ofNat) * s0 ∧
      os.length + 1 = ds.length ∧
      ∀ ix : List Int, ix.length = ds.length → dot ix (o :: os) = lin ds ix * s0 := by
  intro ds
  induction ds with
  | nil => intro h; exact absurd rfl h
  | cons d ds ih =>
    intro _
    cases ds with
    | nil =>
      refine ⟨s0, [], rfl, by simp [prodInt], rfl, ?_⟩
      intro ix hix
      match ix, hix with
      | [i], _ => simp [dot, lin, prodInt]
    | cons d1 ds =>
      obtain ⟨o, os, h1, h2, h3, h4⟩ := ih (by simp)
      refine ⟨(d1 : Int) * o, o :: os, by simp [reshapeStrides, h1], ?_, by simp at h3 ⊢; omega, ?_⟩
      · subst h2
        exact (Int.mul_assoc _ _ _).symm
      · intro ix hix
        cases ix with
        | nil => cases hix
        | cons i ix =>
          have := h4 ix (Nat.succ.inj hix)
          subst h2
          -- the new leading offset is `d1` times the old one: `i·(d1·(P·s0)) = (i·(d1·P))·s0`
          show i * ((d1 : Int) * (prodInt (ds.map Int.ofNat) * s0)) + dot ix _ =
            (i * ((d1 : Int) * prodInt (ds.map Int.ofNat)) + lin (d1 :: ds) ix) * s0
          rw [this, Int.add_mul, Int.mul_assoc i, Int.mul_assoc (d1 : Int)]

/-- mixed radix: a digit `i < d` above a remainder `r < P` is a number below `d·P` -/
theorem digit_bound {i d r P : Int} (hi : 0 ≤ i ∧ i < d) (hr : 0 ≤ r ∧ r < P) :
    0 ≤ i * P + r ∧ i * P + r < d * P := by
  have hP : 0 ≤ P := by omega
  have a1 : 0 ≤ i * P := Int.mul_nonneg hi.1 hP
  have a2 : (i + 1) * P ≤ d * P := Int.mul_le_mul_of_nonneg_right (by omega) hP
  rw [Int.add_mul, Int.one_mul] at a2
  omega

theorem lin_bound : ∀ (ds : List Nat) (ix : List Int), InRange ix ds →
    0 ≤ lin ds ix ∧ lin ds ix < prodInt (ds.map Int.ofNat)
  | [], [], _ => ⟨Int.le_refl 0, Int.zero_lt_one⟩
  | _ :: ds, _ :: ix, h => digit_bound h.1 (lin_bound ds ix h.2)
  | [], _ :: _, h => h.elim
  | _ :: _, [], h => h.elim

theorem map_toNat_ofNat : ∀ (nd : List Int), (nd.any (· < 0)) = false → (nd.map Int.toNat).map Int.ofNat = nd := by
  intro nd
  induction nd with
  | nil => intro _; rfl
  | cons x xs ih =>
    intro h
    simp only [List.any_cons, Bool.or_eq_false_iff, decide_eq_false_iff_not] at h
    simp only [List.map_cons, ih h.2]
    congr 1
    have : Int.ofNat x.toNat = (x.toNat : Int) := rfl
    rw [this]
    omega

theorem reshapeRaw_ok {v w : View} {nd : List Int} (h : reshapeRaw v nd = .ok w) :
    ∃ d0 s0, v.dims = [d0] ∧ v.strides = [s0] ∧ nd ≠ [] ∧ prodInt nd = (d0 : Int) ∧ (nd.any (· < 0)) = false ∧
      w = ⟨v.base, nd.map Int.toNat, reshapeStrides s0 (nd.map Int.toNat)⟩ := by
  unfold reshapeRaw at h
  split at h
  · rename_i d0 s0 hd hs
    split at h
    · cases h
    · rename_i hne
      split at h
      · cases h
      · rename_i hp
        split at h
        · cases h
        · rename_i hneg
          cases h
          exact ⟨d0, s0, hd, hs, hne, by simpa using hp, by simpa using hneg, rfl⟩
  · cases h

theorem reshapeRaw_viewOf {v w : View} {nd : List Int} (h : reshapeRaw v nd = .ok w) :
    ViewOf w v (expandOp v (.reshape nd)) True := by
  obtain ⟨d0, s0, hd, hs, hne, hp, hneg, rfl⟩ := reshapeRaw_ok h
  have hne' : nd.map Int.toNat ≠ [] := by simpa using hne
  obtain ⟨o, os, h1, _, h3, h4⟩ := reshapeStrides_spec s0 _ hne'
  refine ⟨by simp only [View.WF, h1]; simp at h3 ⊢; omega, fun ix hix => ?_, fun _ ix hix => ?_⟩
  · simp only [expandOp, addr, hd, hs, h1, dot, List.length_cons, List.length_nil]
    have := h4 ix hix
    exact ⟨trivial, by omega⟩
  · obtain ⟨l0, l1⟩ := lin_bound _ ix hix
    rw [map_toNat_ofNat nd hneg, hp] at l1
    rw [hd]
    exact ⟨⟨l0, l1⟩, trivial⟩

/-- what the unchecked build needs from its caller (and the checked build tests itself).  For `permute` it asks that `p`
    is a permutation; both builds test that, so it holds of every successful call anyway (`permuteRaw_ok`). -/
def OpAdm (c : Bool) (v : View) : Op → Prop
  | .slice args => c = true ∨ ArgsAdm v.dims args
  | .subset be => c = true ∨ ArgsAdm v.dims (be.map fun p => Ix.range p.1 p.2)
  | .sub1 e => c = true ∨ (0 ≤ e.resolve (v.dims.headD 0) ∧ e.resolve (v.dims.headD 0) < v.dims.headD 0)
  | .permute p => IsPerm p v.dims.length
  | _ => True

def RunAdm (c : Bool) : View → List Op → Prop
  | _, [] => True
  | v, op :: ops => OpAdm c v op ∧ ∀ w, apply c v op = .ok w → RunAdm c w ops

theorem applyRaw_viewOf {c : Bool} {v w : View} {op : Op} (hwf : v.WF) (h : applyRaw c v op = .ok w) :
    ViewOf w v (expandOp v op) (OpAdm c v op) := by
  cases op with
  | slice args => exact sliceRaw_viewOf h
  | subset be =>
    have h : sliceRaw v (be.map fun p => Ix.range p.1 p.2) c = .ok w := h
    exact sliceRaw_viewOf h
  | sub1 e => exact sub1Raw_viewOf hwf h
  | T => exact transpose_viewOf h
  | permute p => exact (permuteRaw_viewOf h).mono fun _ => trivial
  | diag k => exact diagRaw_viewOf h
  | subdiag b e => exact subdiagRaw_viewOf h
  | reshape nd => exact reshapeRaw_viewOf h
  | softLink =>
    cases h
    exact .refl hwf

/-! ### the view constructors: all extents zero as soon as one is zero (`View.canon`, F-76) -/

theorem canonDims_length (ds : List Nat) : (canonDims ds).length = ds.length := by
  unfold canonDims
  split <;> simp

theorem canonDims_of_pos {ds : List Nat} (h : ∀ d ∈ ds, d ≠ 0) : canonDims ds = ds := by
  unfold canonDims
  rw [if_neg]
  intro hany
  obtain ⟨d, hd, h0⟩ := List.any_eq_true.mp hany
  exact h d hd (by simpa using h0)

theorem canonDims_of_zero {ds : List Nat} (h : 0 ∈ ds) : canonDims ds = ds.map (fun _ => 0) := by
  unfold canonDims
  rw [if_pos]
  exact List.any_eq_true.mpr ⟨0, h, by simp⟩

theorem canonDims_singleton (n : Nat) : canonDims [n] = [n] := by
  by_cases h : n = 0
  · subst h; rfl
  · exact canonDims_of_pos (by simpa using h)

theorem zero_mem_canonDims {ds : List Nat} (h : 0 ∈ ds) : 0 ∈ canonDims ds := by
  rw [canonDims_of_zero h]
  exact List.mem_map.mpr ⟨0, h, rfl⟩

theorem not_inRange_of_zero : ∀ {ds : List Nat} {ix : List Int}, 0 ∈ ds → ¬ InRange ix ds := by
  intro ds
  induction ds with
  | nil => intro ix h; simp at h
  | cons d ds ih =>
    intro ix h hin
    cases ix with
    | nil => simp [InRange] at hin
    | cons i ix =>
      obtain ⟨⟨h0, h1⟩, hr⟩ := hin
      rcases List.mem_cons.mp h with h | h
      · subst h; omega
      · exact ih h hr

theorem inRange_canon {ds : List Nat} {ix : List Int} : InRange ix (canonDims ds) ↔ InRange ix ds := by
  by_cases h : 0 ∈ ds
  · rw [canonDims_of_zero h]
    constructor
    · intro hin
      exfalso
      refine not_inRange_of_zero (ds := ds.map fun _ => 0) ?_ hin
      exact List.mem_map.mpr ⟨0, h, rfl⟩
    · intro hin
      exact absurd hin (not_inRange_of_zero h)
  · rw [canonDims_of_pos (fun d hd h0 => h (h0 ▸ hd))]

theorem canon_addr (u : View) (ix : List Int) : addr u.canon ix = addr u ix := rfl

theorem canon_of_pos {u : View} (h : 0 ∉ u.dims) : u.canon = u := by
  unfold View.canon
  rw [canonDims_of_pos fun x hx h0 => h (h0 ▸ hx)]

theorem canon_WF {u : View} : u.canon.WF ↔ u.WF := by
  simp only [View.WF, View.canon, canonDims_length]

theorem ViewOf.canon {u v : View} {f : List Int → List Int} {adm : Prop} (h : ViewOf u v f adm) :
    ViewOf u.canon v f adm :=
  ⟨canon_WF.mpr h.wf, fun ix hix => h.addr_eq ix (hix.trans (canonDims_length _)),
    fun hadm ix hix => h.inRange hadm ix (inRange_canon.mp hix)⟩

theorem slice_eq (v : View) (args : List Ix) (c : Bool) : slice v args c = construct (sliceRaw v args c) := rfl

theorem subset_eq (v : View) (be : List (EndExpr × EndExpr)) (c : Bool) :
    subset v be c = slice v (be.map fun p => Ix.range p.1 p.2) c := rfl

theorem sub1_eq (v : View) (e : EndExpr) (c : Bool) : sub1 v e c = construct (sub1Raw v e c) := rfl

theorem permute_eq (v : View) (p : List Int) : permute v p = construct (permuteRaw v p) := rfl

theorem diagVector_eq (v : View) (k : Int) : diagVector v k = construct (diagVectorRaw v k) := rfl

theorem submatrixOnDiagonal_eq (v : View) (b e : Int) :
    submatrixOnDiagonal v b e = construct (submatrixOnDiagonalRaw v b e) := rfl

theorem reshape_eq (v : View) (nd : List Int) : reshape v nd = construct (reshapeRaw v nd) := rfl

theorem construct_ok {r : Except Err View} {w : View} (h : construct r = .ok w) : ∃ u, r = .ok u ∧ w = u.canon := by
  cases r with
  | error e => simp [construct] at h
  | ok u =>
    simp only [construct] at h
    cases h
    exact ⟨u, rfl, rfl⟩

theorem apply_eq (c : Bool) (v : View) (op : Op) :
    apply c v op = if op.constructs then construct (applyRaw c v op) else applyRaw c v op := by
  cases op <;> rfl

theorem apply_ok {c : Bool} {v w : View} {op : Op} (h : apply c v op = .ok w) :
    ∃ u, applyRaw c v op = .ok u ∧ w = (if op.constructs then u.canon else u) := by
  rw [apply_eq] at h
  by_cases hc : op.constructs = true
  · rw [if_pos hc] at h
    obtain ⟨u, hu, rfl⟩ := construct_ok h
    exact ⟨u, hu, by rw [if_pos hc]⟩
  · rw [if_neg hc] at h
    exact ⟨w, h, by rw [if_neg hc]⟩

theorem apply_viewOf {c : Bool} {v w : View} {op : Op} (hwf : v.WF) (h : apply c v op = .ok w) :
    ViewOf w v (expandOp v op) (OpAdm c v op) := by
  obtain ⟨u, hu, rfl⟩ := apply_ok h
  split
  · exact (applyRaw_viewOf hwf hu).canon
  · exact applyRaw_viewOf hwf hu

/-- the class invariant the view constructors establish (F-76) and `resize` / the default constructor always had:
    if one extent is zero, all are -/
def View.Canonical (v : View) : Prop := v.dims = canonDims v.dims

theorem canonDims_idem (ds : List Nat) : canonDims (canonDims ds) = canonDims ds := by
  by_cases h : 0 ∈ ds
  · rw [canonDims_of_zero h]
    cases ds with
    | nil => simp at h
    | cons d ds =>
      have h0 : 0 ∈ (d :: ds).map (fun _ => 0) := by simp
      rw [canonDims_of_zero h0]
      simp
  · rw [canonDims_of_pos (fun d hd h0 => h (h0 ▸ hd))]
    exact canonDims_of_pos (fun d hd h0 => h (h0 ▸ hd))

theorem canon_canonical (u : View) : u.canon.Canonical := by
  simp only [View.Canonical, View.canon, canonDims_idem]

theorem canonical_all_zero {ds : List Nat} (hc : ds = canonDims ds) (hz : 0 ∈ ds) : ∀ d ∈ ds, d = 0 := by
  intro d hd
  rw [canonDims_of_zero hz] at hc
  rw [hc] at hd
  obtain ⟨_, _, rfl⟩ := List.mem_map.mp hd
  rfl

/-- `empty()` tests the first extent only; with canonical extents that is enough -/
theorem View.Canonical.isEmpty_iff {w : View} (hc : w.Canonical) : w.isEmpty = true ↔ 0 ∈ w.dims := by
  unfold View.isEmpty
  cases hw : w.dims with
  | nil => exact ⟨nofun, nofun⟩
  | cons d ds =>
    rw [beq_iff_eq]
    exact ⟨fun h0 => h0 ▸ List.mem_cons_self,
      fun h0 => canonical_all_zero hc (hw ▸ h0) d (hw ▸ List.mem_cons_self)⟩

theorem allIndices_cons (d : Nat) (ds : List Nat) :
    allIndices (d :: ds) = (List.range d).flatMap fun (i : Nat) => (allIndices ds).map fun r => (i : Int) :: r := rfl

theorem allIndices_inRange : ∀ (ds : List Nat) (ix : List Int), ix ∈ allIndices ds → InRange ix ds := by
  intro ds
  induction ds with
  | nil =>
    intro ix h
    cases List.mem_singleton.mp h
    trivial
  | cons d ds ih =>
    intro ix h
    rw [allIndices_cons, List.mem_flatMap] at h
    obtain ⟨i, hi, h⟩ := h
    obtain ⟨r, hr, rfl⟩ := List.mem_map.mp h
    have := List.mem_range.mp hi
    exact ⟨⟨by omega, by omega⟩, ih r hr⟩

theorem allIndices_complete : ∀ (ds : List Nat) (ix : List Int), InRange ix ds → ix ∈ allIndices ds := by
  intro ds
  induction ds with
  | nil =>
    intro ix h
    cases ix with
    | nil => exact List.mem_singleton.mpr rfl
    | cons i ix => exact h.elim
  | cons d ds ih =>
    intro ix h
    cases ix with
    | nil => exact h.elim
    | cons i ix =>
      obtain ⟨hi, hr⟩ := h
      rw [allIndices_cons, List.mem_flatMap]
      refine ⟨i.toNat, List.mem_range.mpr (by omega), List.mem_map.mpr ⟨ix, ih ix hr, ?_⟩⟩
      rw [Int.toNat_of_nonneg hi.1]

theorem allIndices_of_zero : ∀ {ds : List Nat}, 0 ∈ ds → allIndices ds = [] := by
  intro ds
  induction ds with
  | nil => intro h; simp at h
  | cons d ds ih =>
    intro h
    rcases List.mem_cons.mp h with h | h
    · subst h; simp [allIndices]
    · simp [allIndices, ih h]

theorem allIndices_eq_nil : ∀ {ds : List Nat}, allIndices ds = [] → 0 ∈ ds := by
  intro ds
  induction ds with
  | nil => intro h; simp [allIndices] at h
  | cons d ds ih =>
    intro h
    by_cases hd : d = 0
    · simp [hd]
    · simp only [allIndices, List.flatMap_eq_nil_iff, List.map_eq_nil_iff] at h
      have := h 0 (by simp; omega)
      exact List.mem_cons_of_mem _ (ih this)

theorem transpose_canonical {v w : View} (hv : v.Canonical) (h : transpose v = .ok w) : w.Canonical := by
  obtain ⟨d0, d1, s0, s1, hd, hs, rfl⟩ := transpose_ok h
  simp only [View.Canonical, hd] at hv ⊢
  by_cases h0 : d0 = 0
  · subst h0
    have h1 : d1 = 0 := by
      unfold canonDims at hv
      simpa using hv
    subst h1
    rfl
  · by_cases h1 : d1 = 0
    · subst h1
      unfold canonDims at hv
      simp at hv
      exact absurd hv h0
    · exact (canonDims_of_pos (by intro x hx; simp at hx; omega)).symm

theorem apply_canonical {c : Bool} {v w : View} {op : Op} (hop : op.constructs = true ∨ v.Canonical)
    (h : apply c v op = .ok w) : w.Canonical := by
  by_cases hc : op.constructs = true
  · obtain ⟨u, _, rfl⟩ := apply_ok h
    rw [if_pos hc]
    exact canon_canonical u
  · cases op with
    | T =>
      rcases hop with hop | hop
      · exact absurd hop hc
      · exact transpose_canonical hop h
    | _ => exact absurd rfl hc

theorem fresh_canonical (rowMajor : Bool) {dims : List Nat} (h : ∀ d ∈ dims, d ≠ 0) : (fresh rowMajor dims).Canonical := by
  simp only [View.Canonical, fresh]
  exact (canonDims_of_pos h).symm

theorem run_cons_ok {c : Bool} {v w : View} {op : Op} {ops : List Op} (h : run c v (op :: ops) = .ok w) :
    ∃ u, apply c v op = .ok u ∧ run c u ops = .ok w := by
  simp only [run] at h
  split at h
  · rename_i u hu; exact ⟨u, hu, h⟩
  · cases h

/-- the bounds-checked build tests the indices itself, and both builds test that `permute` is given a permutation -/
theorem opAdm_checked {v w : View} {op : Op} (h : apply true v op = .ok w) : OpAdm true v op := by
  cases op with
  | permute p =>
    obtain ⟨u, hu, _⟩ := apply_ok h
    have hu : permuteRaw v p = .ok u := hu
    exact (permuteRaw_ok hu).1
  | slice a => exact Or.inl rfl
  | subset a => exact Or.inl rfl
  | sub1 a => exact Or.inl rfl
  | _ => trivial

theorem runAdm_checked : ∀ (ops : List Op) (v w : View), run true v ops = .ok w → RunAdm true v ops
  | [], _, _, _ => trivial
  | op :: ops, v, w, h => by
    obtain ⟨u, hu, hr⟩ := run_cons_ok h
    refine ⟨opAdm_checked hu, fun u' hu' => ?_⟩
    cases hu.symm.trans hu'
    exact runAdm_checked ops u w hr

theorem expandAll_cons {c : Bool} {v u : View} {op : Op} (hu : apply c v op = .ok u) (ops : List Op) (ix : List Int) :
    expandAll c v (op :: ops) ix = expandOp v op (expandAll c u ops ix) := by
  simp only [expandAll, hu]

theorem run_viewOf (c : Bool) : ∀ (ops : List Op) (v w : View), v.WF → run c v ops = .ok w →
    ViewOf w v (expandAll c v ops) (RunAdm c v ops)
  | [], v, w, hwf, h => by
    cases h
    exact .refl hwf
  | op :: ops, v, w, hwf, h => by
    obtain ⟨u, hu, hr⟩ := run_cons_ok h
    have ha := apply_viewOf hwf hu
    have hb := run_viewOf c ops u w ha.wf hr
    refine ⟨hb.wf, fun ix hix => ?_, fun hadm ix hix => ?_⟩
    · obtain ⟨l1, e1⟩ := hb.addr_eq ix hix
      obtain ⟨l2, e2⟩ := ha.addr_eq _ l1
      rw [expandAll_cons hu]
      exact ⟨l2, e1.trans e2⟩
    · rw [expandAll_cons hu]
      exact ha.inRange hadm.1 _ (hb.inRange (hadm.2 u hu) ix hix)

/-- the set of parent-allocation cells a view can touch -/
def cells (v : View) (a : Int) : Prop := ∃ ix : List Int, InRange ix v.dims ∧ addr v ix = a

/-! ### freshly allocated parents: addresses fill `0 … volume-1` -/

theorem packRowMajor_eq (dims : List Nat) : packRowMajor dims = reshapeStrides 1 dims := by
  induction dims with
  | nil => rfl
  | cons d ds ih =>
    cases ds with
    | nil => rfl
    | cons d1 ds => simp only [packRowMajor, reshapeStrides, ih]

theorem dot_packRowMajor (ds : List Nat) (ix : List Int) (h : ix.length = ds.length) :
    dot ix (packRowMajor ds) = lin ds ix := by
  cases ds with
  | nil => cases ix <;> rfl
  | cons d ds =>
    obtain ⟨o, os, h1, _, _, h4⟩ := reshapeStrides_spec 1 (d :: ds) nofun
    rw [packRowMajor_eq, h1, h4 ix h, Int.mul_one]

/-- column-major linear index -/
def colLin : List Nat → List Int → Int
  | d :: ds, i :: ix => i + (d : Int) * colLin ds ix
  | _, _ => 0

theorem dot_packColMajorGo : ∀ (ds : List Nat) (o : Int) (ix : List Int), ix.length = ds.length →
    dot ix (packColMajorGo o ds) = o * colLin ds ix := by
  intro ds
  induction ds with
  | nil => intro o ix h; cases ix <;> simp at h; simp [dot, colLin]
  | cons d ds ih =>
    intro o ix h
    cases ix with
    | nil => simp at h
    | cons i ix =>
      simp only [packColMajorGo, dot, colLin, ih (o * d) ix (by simpa using h)]
      grind

theorem colLin_bound : ∀ (ds : List Nat) (ix : List Int), InRange ix ds →
    0 ≤ colLin ds ix ∧ colLin ds ix < prodInt (ds.map Int.ofNat)
  | [], [], _ => ⟨Int.le_refl 0, Int.zero_lt_one⟩
  | d :: ds, i :: ix, h => by
    -- the same number with the roles exchanged: `colLin ds ix` is the digit, `i < d` the remainder
    have := digit_bound (colLin_bound ds ix h.2) h.1
    rw [Int.mul_comm _ (d : Int), Int.mul_comm _ (d : Int), Int.add_comm] at this
    exact this
  | [], _ :: _, h => h.elim
  | _ :: _, [], h => h.elim

theorem fresh_addr_bounds (rowMajor : Bool) (dims : List Nat) (ix : List Int) (h : InRange ix dims) :
    0 ≤ addr (fresh rowMajor dims) ix ∧ addr (fresh rowMajor dims) ix < prodInt (dims.map Int.ofNat) := by
  cases rowMajor with
  | true =>
    have hb := lin_bound dims ix h
    simp only [addr, fresh, if_true, dot_packRowMajor dims ix (InRange_length h)]
    omega
  | false =>
    have := dot_packColMajorGo dims 1 ix (InRange_length h)
    have hb := colLin_bound dims ix h
    simp only [addr, fresh, packColMajor]
    simp only [Bool.false_eq_true, if_false]
    omega

theorem packRowMajor_length (dims : List Nat) : (packRowMajor dims).length = dims.length := by
  cases dims with
  | nil => rfl
  | cons d ds =>
    obtain ⟨o, os, h1, _, h3, _⟩ := reshapeStrides_spec 1 (d :: ds) (by simp)
    rw [packRowMajor_eq, h1]; simpa using h3

theorem packColMajorGo_length : ∀ (dims : List Nat) (o : Int), (packColMajorGo o dims).length = dims.length := by
  intro dims
  induction dims with
  | nil => intro o; rfl
  | cons d ds ih => intro o; simp [packColMajorGo, ih]

theorem fresh_WF (rowMajor : Bool) (dims : List Nat) : (fresh rowMajor dims).WF := by
  cases rowMajor with
  | true => simp [View.WF, fresh, packRowMajor_length]
  | false => simp [View.WF, fresh, packColMajor, packColMajorGo_length]


/-! ### is_contiguous (with the loop counting down) -/

theorem contigGo_iff : ∀ (rd : List Nat) (rs : List Int) (e : Int), rd.length = rs.length →
    (contigGo e rd rs = true ↔ rs = packColMajorGo e rd) := by
  intro rd
  induction rd with
  | nil => intro rs e h; cases rs <;> simp at h; simp [contigGo, packColMajorGo]
  | cons d rd ih =>
    intro rs e h
    cases rs with
    | nil => simp at h
    | cons s rs =>
      simp only [contigGo, packColMajorGo]
      by_cases hs : s = e
      · subst hs
        simp [ih rs (s * d) (by simpa using h)]
      · simp [hs]

theorem prodInt_append (l : List Int) (x : Int) : prodInt (l ++ [x]) = prodInt l * x := by
  induction l with
  | nil => simp [prodInt]
  | cons a l ih => simp only [List.cons_append, prodInt, ih]; grind

theorem prodInt_reverse (l : List Int) : prodInt l.reverse = prodInt l := by
  induction l with
  | nil => rfl
  | cons a l ih => simp only [List.reverse_cons, prodInt_append, prodInt, ih]; grind

theorem packColMajorGo_append : ∀ (l : List Nat) (o : Int) (d : Nat),
    packColMajorGo o (l ++ [d]) = packColMajorGo o l ++ [o * prodInt (l.map Int.ofNat)] := by
  intro l
  induction l with
  | nil => intro o d; simp [packColMajorGo, prodInt]
  | cons a l ih =>
    intro o d
    simp only [List.cons_append, packColMajorGo, ih, List.map_cons, prodInt]
    congr 2
    have : Int.ofNat a = (a : Int) := rfl
    rw [this]; grind

theorem packRowMajor_reverse : ∀ (ds : List Nat), (packRowMajor ds).reverse = packColMajorGo 1 ds.reverse := by
  intro ds
  induction ds with
  | nil => rfl
  | cons d rest ih =>
    cases rest with
    | nil => rfl
    | cons d1 ds' =>
      obtain ⟨o, os, h1, h2, _, _⟩ := reshapeStrides_spec 1 (d1 :: ds') (by simp)
      rw [← packRowMajor_eq] at h1
      have e1 : packRowMajor (d :: d1 :: ds') = (d1 : Int) * o :: o :: os := by
        simp only [packRowMajor, h1]
      rw [e1, List.reverse_cons (a := d), packColMajorGo_append, ← ih, h1, List.reverse_cons (a := (d1 : Int) * o)]
      congr 2
      rw [List.map_reverse, prodInt_reverse]
      subst h2
      simp only [List.tail_cons, List.map_cons, prodInt]
      have : Int.ofNat d1 = (d1 : Int) := rfl
      rw [this]; grind

/-- decidable equality of results (for the concrete examples in `Props/C06.lean`) -/
instance instDecEqResult : DecidableEq (Except Err View)
  | .ok a, .ok b => if h : a = b then isTrue (by rw [h]) else isFalse (by intro h'; cases h'; exact h rfl)
  | .error a, .error b => if h : a = b then isTrue (by rw [h]) else isFalse (by intro h'; cases h'; exact h rfl)
  | .ok _, .error _ => isFalse (by intro h; cases h)
  | .error _, .ok _ => isFalse (by intro h; cases h)

end Adept.Views
