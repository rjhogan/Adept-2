import AdeptModel.Simd
import AdeptModel.Generated.VecTraits
/-!
# The rule the `is_vectorizable` trait of an expression node class must obey (C05)

`AdeptModel/Generated/VecTraits.lean` is the census, regenerated from include/adept/*.h by translate/vectrait.py on every run
of checks/c05.py, of every class that derives from `Expression<…>`: its trait declaration in normal form and the facts about
the class that decide whether that declaration is sound.  Core Lean only.

Why there is a rule at all: the packet loops of `Array::assign_expression_` and `reduce_inactive` advance EVERY array index of
the right-hand side themselves (`next_packet`: each index += `Packet<Type>::size`; `next_value_contiguous`: each index += 1).
A node class whose own index discipline is different — `Spread` along the last dimension (the argument's index must stay put
along a row), `OuterProduct` (the left vector's index never moves) — computes wrong elements in those loops, whatever its
`packet_at_location_` does.  The class's `advance_location_` is where that discipline is written down.

For the model's trees the trait is the conjunction over the nodes of "this node allows the packet loops" (`vectorizable_eq_all`).
-/
namespace Adept.Simd.TraitCensus

/-- the rule, per normal form of the declaration:
* no declaration (the class inherits `Expression`'s `false`) or `false`: always sound — the packet overloads are never chosen;
* `true`: only for a class with a packet form that holds no operand and owns no array index (`Scalar`);
* `Packet<Type>::is_vectorized`: only for a class with a packet form that holds no operand and advances its own index
  (the array leaves `Array`, `FixedArray`);
* a conjunction `X::is_vectorizable && …`: only for an element-wise class — packet form, at least one operand,
  `advance_location_` forwards to every operand, unconditionally — and the conjunction must name the trait of EVERY operand
  type, `Op::is_vectorized` if the class has an operation policy, and an `is_same` test of the element types if the two sides
  can have different ones;
* `SpreadDim != E::rank + k`: only for a class with a packet form whose `advance_location_` is conditional, and then `k` must
  make the excluded value the LAST dimension of the result: `rank = E::rank + r` with `k = r - 1`;
* anything else is rejected. -/
def Node.sound (n : Node) : Bool :=
  match n.trait with
  | .absent => true
  | .constFalse => true
  | .constTrue => n.hasPacket && n.operands.isEmpty && !n.selfAdv
  | .packetType => n.hasPacket && n.operands.isEmpty && n.selfAdv
  | .conj ts opVec same =>
    n.hasPacket && !n.operands.isEmpty && !n.advCond && n.advanced == n.operands && ts == n.operandTypes
      && (!n.hasOp || opVec) && (!n.twoTypes || same)
  | .spreadDimNe k =>
    n.hasPacket && n.advCond && !n.operands.isEmpty && n.advanced == n.operands && n.rankOff == some (k + 1)
  | .other => false

/-- "a class without `packet_at_location_` never declares the trait" as a separate reading of the same table -/
def Node.noPacketMeansFalse (n : Node) : Bool :=
  n.hasPacket || n.trait == .absent || n.trait == .constFalse

/-- the declaration of the class named `cls` (first entry of the census with that name) -/
def traitOf (cls : String) : Option Trait := (vecNodes.find? (fun n => n.cls == cls)).map (·.trait)

/-- what a normal form means for an object of the class: `ops` = the traits of its operands, `opVec` = its operation has a
    packet form and the element types of its sides agree, `spreadDim ≤ eRank` = the template arguments of a `Spread` -/
def Trait.eval (t : Trait) (ops : List Bool) (opVec : Bool) (spreadDim eRank : Nat) : Bool :=
  match t with
  | .absent => false
  | .constFalse => false
  | .constTrue => true
  | .packetType => true          -- for an element type that has packets (`W > 1`: tested by `assignPlan` / `reducePlan`)
  | .conj _ ov sm => ops.all id && (!(ov || sm) || opVec)
  | .spreadDimNe k => decide ((spreadDim : Int) ≠ (eRank : Int) + k)
  | .other => false

def evalCls (cls : String) (ops : List Bool) (opVec : Bool) (spreadDim eRank : Nat) : Bool :=
  match traitOf cls with
  | some t => t.eval ops opVec spreadDim eRank
  | none => false

end Adept.Simd.TraitCensus

namespace Adept.Simd

/-- every sub-expression of a tree (the views held by `spread` / `outer` are leaves of those nodes, not sub-expressions) -/
def Expr.subterms : Expr → List Expr
  | .un b e => .un b e :: e.subterms
  | .bin b l r => .bin b l r :: (l.subterms ++ r.subterms)
  | e => [e]

/-- the node itself (not its operands) rules the packet loops out -/
def Expr.nonVecNode : Expr → Bool
  | .un opVec _ => !opVec
  | .bin opVec _ _ => !opVec
  | .spread last _ => last
  | .outer _ _ => true
  | .plain => true
  | _ => false

theorem vectorizable_eq_all (e : Expr) : e.vectorizable = e.subterms.all fun s => !s.nonVecNode := by
  induction e with
  | un b e ih => simp only [Expr.vectorizable, Expr.subterms, List.all_cons, Expr.nonVecNode, Bool.not_not, ih]
  | bin b l r ihl ihr =>
    simp only [Expr.vectorizable, Expr.subterms, List.all_cons, List.all_append, Expr.nonVecNode, Bool.not_not, ihl, ihr]
    exact Bool.and_comm _ _
  | spread last v => exact (Bool.and_true _).symm
  | _ => rfl

theorem subterms_of_vectorizable (e : Expr) (h : e.vectorizable = true) :
    ∀ s ∈ e.subterms, s.nonVecNode = false := by
  rw [vectorizable_eq_all, List.all_eq_true] at h
  exact fun s hs => Bool.not_eq_true' _ ▸ h s hs

open TraitCensus in
theorem evalCls_of {cls : String} {t : Trait} (h : traitOf cls = some t) (ops : List Bool) (b : Bool) (d r : Nat) :
    evalCls cls ops b d r = t.eval ops b d r := by
  unfold evalCls
  rw [h]

end Adept.Simd
