import AdeptModel.Threads
/-! What C12 and C14 rest on (core Lean only).  A step is checked once against the footprint table (`step_shared_frame`,
    `step_congr`, `step_other`); non-interference and the activator property are invariants along a schedule built from
    these; race freedom needs only `trace_mem`; the `n_links_` machine has its own invariant (`NLinks.Inv`). -/
namespace Adept.Threads

@[simp] theorem upd_same {α : Type} (f : Nat → α) (t : Nat) (v : α) : upd f t v t = v := by simp [upd]
@[simp] theorem upd_other {α : Type} (f : Nat → α) {t u : Nat} (v : α) (h : u ≠ t) : upd f t v u = f u := by
  simp [upd, h]
theorem upd_self {α : Type} (f : Nat → α) (t : Nat) : upd f t (f t) = f := by
  funext u
  by_cases h : u = t <;> simp [upd, h]
@[simp] theorem setS_same (f : SLoc → Nat) (l : SLoc) (v : Nat) : setS f l v l = v := by simp [setS]
@[simp] theorem setS_other (f : SLoc → Nat) {l l' : SLoc} (v : Nat) (h : l' ≠ l) : setS f l v l' = f l' := by
  simp [setS, h]

theorem mem_sharedWrites {c : Cfg} {k : OpKind} {a : Access} {l : SLoc} (ha : a ∈ footprint c k)
    (hl : a.loc = .shared l) (hm : a.mode = .write) : l ∈ sharedWrites c k := by
  rcases a with ⟨la, ma, ka⟩
  simp only at hl hm
  subst hl; subst hm
  exact List.mem_filterMap.mpr ⟨_, ha, rfl⟩

theorem sh_setPtr {c : Cfg} {k : OpKind} {l : SLoc} (h : l ∉ sharedWrites c k)
    (ha : ⟨stackPtrLoc c, .write, .plain⟩ ∈ footprint c k) (w : World) (t v : Nat) : (setPtr c w t v).sh l = w.sh l := by
  unfold setPtr
  unfold stackPtrLoc at ha
  cases hT : c.stackPtrTLS
  · rw [hT] at ha
    exact setS_other _ _ fun e => h (e ▸ mem_sharedWrites ha rfl rfl)
  · rfl

/-- pushing `.sh l` through the step leaves one `setPtr` or `setS` per write -/
theorem step_shared_frame (c : Cfg) (t : Nat) (op : Op) (w : World) (l : SLoc)
    (h : l ∉ sharedWrites c op.kind) : (step c t op w).sh l = w.sh l := by
  rcases op with ⟨k, a⟩
  have sh_modPriv : ∀ (w : World) (f : Priv → Priv), (modPriv w t f).sh = w.sh := fun _ _ => rfl
  cases k <;> simp only [step, apply_ite (fun w : World => w.sh l), sh_modPriv, ite_self]
  case newStack | activate | deactivate | destroyStack =>
    simp only [sh_setPtr h (by simp only [footprint, List.mem_cons, true_or, or_true]), ite_self]
  -- `h` becomes `l ≠ x` for each `setS … x …` left
  case newArray | deleteArray | linkShared | unlinkShared | setRowMajor | setPrintStyle =>
    simp [sharedWrites, footprint] at h
    simp [setS, h]

theorem proj_modPriv (c : Cfg) (w : World) (t : Nat) (f : Priv → Priv) :
    proj c t (modPriv w t f) = ((proj c t w).1, f (proj c t w).2) := by
  simp [proj, modPriv, getPtr, upd]

theorem proj_setPtr (c : Cfg) (w : World) (t v : Nat) : proj c t (setPtr c w t v) = (v, (proj c t w).2) := by
  unfold proj getPtr setPtr
  cases c.stackPtrTLS <;> simp [upd, setS]

theorem proj_setS (c : Cfg) (tl : Nat → Nat) (pr : Nat → Priv) (s : SLoc → Nat) (t : Nat) {l : SLoc} (v : Nat)
    (h : l ≠ .stackPtrGlobal) : proj c t ⟨tl, pr, setS s l v⟩ = proj c t ⟨tl, pr, s⟩ := by
  simp [proj, getPtr, setS, Ne.symm h]

theorem proj_eta (c : Cfg) (t : Nat) (w : World) : proj c t ⟨w.tls, w.priv, w.sh⟩ = proj c t w := rfl

/-- pushing `proj c t` through the step leaves both sides equal up to the values read -/
theorem step_congr (c : Cfg) (t : Nat) (op : Op) (w w' : World) (h : proj c t w = proj c t w')
    (hs : ∀ l ∈ sharedReads c op.kind, w.sh l = w'.sh l) :
    proj c t (step c t op w) = proj c t (step c t op w') := by
  rcases op with ⟨k, a⟩
  have h1 : getPtr c w t = getPtr c w' t := congrArg Prod.fst h
  have h2 : w.priv t = w'.priv t := congrArg Prod.snd h
  cases k <;> simp only [step, apply_ite (proj c t), proj_modPriv, proj_setPtr, proj_setS, proj_eta, h, h1, h2, ne_eq,
    reduceCtorEq, not_false_eq_true]
  case newArray | printArray | unlinkShared | readStorageCount =>
    simp [sharedReads, footprint] at hs
    simp [hs]

/-- what thread `t` sees of a world when the stack pointer is thread-local -/
def view (t : Nat) (w : World) : Nat × Priv := (w.tls t, w.priv t)

theorem proj_eq_view {c : Cfg} (hT : c.stackPtrTLS = true) (t : Nat) (w : World) : proj c t w = view t w := by
  simp [proj, view, getPtr, hT]

theorem view_modPriv {t u : Nat} (h : u ≠ t) (w : World) (f : Priv → Priv) : view u (modPriv w t f) = view u w := by
  simp [view, modPriv, upd, h]

theorem view_setPtr (c : Cfg) {t u : Nat} (h : u ≠ t) (w : World) (v : Nat) : view u (setPtr c w t v) = view u w := by
  unfold setPtr
  split <;> simp [view, upd, h]

theorem step_other (c : Cfg) {t u : Nat} (op : Op) (w : World) (h : u ≠ t) : view u (step c t op w) = view u w := by
  have view_sh : ∀ s, view u ⟨w.tls, w.priv, s⟩ = view u w := fun _ => rfl
  rcases op with ⟨k, a⟩
  cases k <;> simp only [step, apply_ite (view u), view_modPriv h, view_setPtr c h, view_sh, ite_self]

/-- every operation of the workload is of a kind in `K` -/
def UsesOnly (W : Workload) (K : List OpKind) : Prop := ∀ t, ∀ op ∈ W t, op.kind ∈ K

/-- no operation kind of `K` writes a shared location that an operation kind of `K` reads -/
def Isolated (c : Cfg) (K : List OpKind) : Prop :=
  ∀ k ∈ K, ∀ k' ∈ K, ∀ l ∈ sharedWrites c k, l ∉ sharedReads c k'

instance (c : Cfg) (K : List OpKind) : Decidable (Isolated c K) := by unfold Isolated; infer_instance

def Loc.isShared : Loc → Bool
  | .shared _ => true
  | _ => false

/-- two accesses that would race if performed by different threads: same shared location, one writes, one is plain -/
def Access.clash (a b : Access) : Bool :=
  a.loc.isShared && decide (a.loc = b.loc) && (decide (a.mode = .write) || decide (b.mode = .write)) &&
    (decide (a.kind = .plain) || decide (b.kind = .plain))

/-- whenever two operation kinds of `K` access the same shared location and one of them writes, both accesses are atomic -/
def NoPlainConflict (c : Cfg) (K : List OpKind) : Prop :=
  ∀ k ∈ K, ∀ k' ∈ K, ∀ a ∈ footprint c k, ∀ b ∈ footprint c k', a.clash b = false

instance (c : Cfg) (K : List OpKind) : Decidable (NoPlainConflict c K) := by unfold NoPlainConflict; infer_instance

theorem exec_cons (c : Cfg) (W : Workload) (t : Nat) (s : List Nat) (r : Run) :
    exec c W (t :: s) r = exec c W s (execStep c W r t) := rfl

theorem exec_invariant (c : Cfg) (W : Workload) (P : Run → Prop)
    (hstep : ∀ r t, P r → P (execStep c W r t)) : ∀ (sched : List Nat) (r : Run), P r → P (exec c W sched r) := by
  intro sched
  induction sched with
  | nil => intro r h; exact h
  | cons t s ih => intro r h; rw [exec_cons]; exact ih _ (hstep r t h)

theorem solo_snoc (c : Cfg) (t : Nat) (ops : List Op) (op : Op) (w : World) :
    solo c t (ops ++ [op]) w = step c t op (solo c t ops w) := by
  simp [solo, List.foldl_append]

theorem step_isolated {c : Cfg} {K : List OpKind} (hI : Isolated c K) {op : Op} (hk : op.kind ∈ K) {l : SLoc}
    (hl : ∃ k ∈ K, l ∈ sharedReads c k) (t : Nat) (w : World) : (step c t op w).sh l = w.sh l :=
  step_shared_frame c t op w l fun hw => hl.elim fun k' ⟨hk', hr⟩ => hI _ hk k' hk' l hw hr

theorem solo_sh (c : Cfg) (K : List OpKind) (hI : Isolated c K) (t : Nat) (l : SLoc)
    (hl : ∃ k ∈ K, l ∈ sharedReads c k) :
    ∀ (ops : List Op) (w : World), (∀ op ∈ ops, op.kind ∈ K) → (solo c t ops w).sh l = w.sh l := by
  intro ops
  induction ops with
  | nil => intro w _; rfl
  | cons op rest ih =>
    intro w h
    exact (ih _ fun o ho => h o (List.mem_cons_of_mem _ ho)).trans
      (step_isolated hI (h op (List.mem_cons_self ..)) hl t w)

def NIInv (c : Cfg) (W : Workload) (K : List OpKind) (w0 : World) (r : Run) : Prop :=
  (∀ t, view t r.w = view t (solo c t ((W t).take (r.pc t)) w0)) ∧
  (∀ l, (∃ k ∈ K, l ∈ sharedReads c k) → r.w.sh l = w0.sh l)

theorem niinv_step (c : Cfg) (W : Workload) (K : List OpKind) (w0 : World) (hT : c.stackPtrTLS = true)
    (hI : Isolated c K) (hU : UsesOnly W K) (r : Run) (t : Nat) (h : NIInv c W K w0 r) :
    NIInv c W K w0 (execStep c W r t) := by
  unfold execStep
  cases hop : (W t)[r.pc t]? with
  | none => exact h
  | some op =>
    have hk : op.kind ∈ K := hU t op (List.mem_of_getElem? hop)
    obtain ⟨hv, hs⟩ := h
    refine ⟨?_, ?_⟩
    · intro u
      by_cases hu : u = t
      · subst hu
        simp only [upd_same]
        rw [List.take_add_one, hop, Option.toList_some, solo_snoc]
        have hsolo : ∀ l ∈ sharedReads c op.kind, r.w.sh l = (solo c u ((W u).take (r.pc u)) w0).sh l := fun l hl =>
          (hs l ⟨_, hk, hl⟩).trans
            (solo_sh c K hI u l ⟨_, hk, hl⟩ _ w0 fun o ho => hU u o (List.mem_of_mem_take ho)).symm
        simp only [← proj_eq_view hT] at hv ⊢
        exact step_congr c u op _ _ (hv u) hsolo
      · simp only [upd_other _ _ hu]
        rw [step_other c op r.w hu]
        exact hv u
    · exact fun l hl => (step_isolated hI hk hl t r.w).trans (hs l hl)

theorem niinv_start (c : Cfg) (W : Workload) (K : List OpKind) (w0 : World) : NIInv c W K w0 (Run.start w0) := by
  refine ⟨fun t => ?_, fun l _ => rfl⟩
  simp [Run.start, solo]

theorem execStep_pc_self (c : Cfg) (W : Workload) (r : Run) (t : Nat) :
    (execStep c W r t).pc t = if r.pc t < (W t).length then r.pc t + 1 else r.pc t := by
  unfold execStep
  cases hop : (W t)[r.pc t]? with
  | none => simp [Nat.not_lt.mpr (List.getElem?_eq_none_iff.mp hop)]
  | some op => simp [(List.getElem?_eq_some_iff.mp hop).1]

theorem execStep_pc_other (c : Cfg) (W : Workload) (r : Run) {u t : Nat} (hu : u ≠ t) :
    (execStep c W r u).pc t = r.pc t := by
  unfold execStep
  cases (W u)[r.pc u]? with
  | none => rfl
  | some op => exact upd_other _ _ (Ne.symm hu)

theorem exec_pc (c : Cfg) (W : Workload) (t : Nat) :
    ∀ (sched : List Nat) (r : Run), r.pc t ≤ (W t).length →
      (exec c W sched r).pc t = min (r.pc t + sched.count t) (W t).length := by
  intro sched
  induction sched with
  | nil => intro r h; exact (Nat.min_eq_left h).symm
  | cons u s ih =>
    intro r h
    rw [exec_cons]
    by_cases hu : u = t
    · subst hu
      have hs := execStep_pc_self c W r u
      split at hs <;> rw [List.count_cons_self, ih _ (by omega)] <;> omega
    · rw [List.count_cons_of_ne hu, ih _ (by rw [execStep_pc_other c W r hu]; exact h), execStep_pc_other c W r hu]

theorem trace_mem (c : Cfg) (W : Workload) (sched : List Nat) (w0 : World) :
    ∀ e ∈ (exec c W sched (Run.start w0)).trace, e.2 ∈ W e.1 := by
  apply exec_invariant c W (fun r => ∀ e ∈ r.trace, e.2 ∈ W e.1)
  · intro r t h
    unfold execStep
    cases hop : (W t)[r.pc t]? with
    | none => exact h
    | some op =>
      exact List.forall_mem_cons.mpr ⟨List.mem_of_getElem? hop, h⟩
  · intro e he; simp [Run.start] at he

theorem races_clash {t u : Nat} {a b : Access} (h : Races t a u b) : a.clash b = true := by
  obtain ⟨hne, hloc, hw, hk⟩ := h
  rcases a with ⟨la, ma, ka⟩
  rcases b with ⟨lb, mb, kb⟩
  cases la <;> cases lb <;> simp [concrete] at hloc
  · exact absurd hloc hne
  · exact absurd hloc hne
  · subst hloc
    simp only [Access.clash, Loc.isShared, Bool.true_and, decide_true, Bool.and_eq_true, Bool.or_eq_true, decide_eq_true_eq]
    exact ⟨hw, hk⟩

/-- no operation kind of `K` writes any shared location at all -/
def NoSharedWrite (c : Cfg) (K : List OpKind) : Prop := ∀ k ∈ K, sharedWrites c k = []

/-! What the hypotheses ask of a build.  With the flags named fixed, `Isolated` and `NoPlainConflict` are questions about
the finitely many rows of the footprint table: evaluated once, for all values of the remaining flags (`+revert`). -/

theorem stackPtrIsTLS_of_globalsAccounted {table : List (String × String × Bool)}
    (h : globalsAccounted table = true) : stackPtrIsTLS table = true := by
  simp only [globalsAccounted, stackPtrIsTLS, Bool.and_eq_true, List.all_eq_true] at h ⊢
  refine ⟨h.1, fun e he => ?_⟩
  have hc := h.2 e he
  by_cases hn : e.1 = "adept::_stack_current_thread"
  · simpa [hn, classify] using hc
  · simp [hn]

theorem c12Kinds_safe (c : Cfg) (hT : c.stackPtrTLS = true) (hA : c.countersAtomic = true) :
    Isolated c c12Kinds ∧ NoPlainConflict c c12Kinds := by
  rcases c with ⟨_, _, na⟩
  cases hT
  cases hA
  decide +revert +kernel

theorem c14Kinds_noPlainConflict (c : Cfg) (hA : c.countersAtomic = true) (hN : c.nLinksAtomic = true) :
    NoPlainConflict c c14Kinds := by
  rcases c with ⟨tls, _, _⟩
  cases hA
  cases hN
  decide +revert +kernel

theorem c14SoftKinds_noPlainConflict (c : Cfg) (hA : c.countersAtomic = true) : NoPlainConflict c c14SoftKinds := by
  rcases c with ⟨tls, _, na⟩
  cases hA
  decide +revert +kernel

theorem newArray_plain_write {c : Cfg} (hc : c.countersAtomic = false) :
    (⟨.shared .nStorageCreated, .write, .plain⟩ : Access) ∈ footprint c .newArray := by
  simp [footprint, hc, kindOf]

/-- with plain counters, the constructor of an array conflicts with itself in another thread -/
theorem plain_counters_conflict {c : Cfg} {K : List OpKind} (hc : c.countersAtomic = false) (hK : .newArray ∈ K) :
    ¬ NoPlainConflict c K :=
  fun h => absurd (h _ hK _ hK _ (newArray_plain_write hc) _ (newArray_plain_write hc)) (by decide)

theorem step_tls_self (c : Cfg) (hT : c.stackPtrTLS = true) (t : Nat) (op : Op) (w : World) :
    (step c t op w).tls t = w.tls t ∨ (step c t op w).tls t = 0 ∨
      ((op.kind = .newStack ∨ op.kind = .activate) ∧ (step c t op w).tls t = op.arg + 1) := by
  have key : ∀ w : World, w.tls t = (proj c t w).1 := fun w => by simp [proj, getPtr, hT]
  rcases op with ⟨k, a⟩
  cases k <;> simp only [key, step, apply_ite (proj c t), apply_ite Prod.fst, proj_modPriv, proj_setPtr, proj_setS, proj_eta,
    ne_eq, reduceCtorEq, not_false_eq_true, ite_self, true_or, or_true, false_and, or_false, true_and]
  case newStack | activate | deactivate | destroyStack => split <;> simp only [true_or, or_true]

def ActInv (W : Workload) (r : Run) : Prop :=
  ∀ u, r.w.tls u ≠ 0 →
    ∃ op ∈ (W u).take (r.pc u), (op.kind = .newStack ∨ op.kind = .activate) ∧ r.w.tls u = op.arg + 1

theorem actinv_step (c : Cfg) (hT : c.stackPtrTLS = true) (W : Workload) (r : Run) (t : Nat) (h : ActInv W r) :
    ActInv W (execStep c W r t) := by
  unfold execStep
  cases hop : (W t)[r.pc t]? with
  | none => exact h
  | some op =>
    intro u hne
    by_cases hu : u = t
    · subst hu
      simp only [upd_same] at hne ⊢
      rw [List.take_add_one, hop, Option.toList_some]
      rcases step_tls_self c hT u op r.w with h1 | h1 | ⟨hk, h1⟩
      · rw [h1] at hne ⊢
        obtain ⟨o, ho, hk, he⟩ := h u hne
        exact ⟨o, List.mem_append_left _ ho, hk, he⟩
      · exact absurd h1 hne
      · exact ⟨op, by simp, hk, h1⟩
    · have hs : (step c t op r.w).tls u = r.w.tls u := congrArg Prod.fst (step_other c op r.w hu)
      simp only [upd_other _ _ hu] at hne ⊢
      rw [hs] at hne ⊢
      exact h u hne

namespace NLinks

theorem sumTo_upd_ge (f : Nat → Nat) (t v : Nat) : ∀ n, n ≤ t → sumTo n (upd f t v) = sumTo n f := by
  intro n
  induction n with
  | zero => intro _; rfl
  | succ n ih =>
    intro h
    have hne : n ≠ t := by omega
    simp [sumTo, ih (by omega), upd_other f v hne]

theorem sumTo_upd_lt (f : Nat → Nat) (t v : Nat) : ∀ n, t < n → sumTo n (upd f t v) + f t = sumTo n f + v := by
  intro n
  induction n with
  | zero => intro h; omega
  | succ n ih =>
    intro h
    by_cases ht : t = n
    · subst ht
      simp [sumTo, sumTo_upd_ge f t v t (Nat.le_refl _)]; omega
    · have hne : n ≠ t := fun e => ht e.symm
      have := ih (by omega)
      simp [sumTo, upd_other f v hne]; omega

theorem le_sumTo (f : Nat → Nat) (t n : Nat) (h : t < n) : f t ≤ sumTo n f := by
  have := sumTo_upd_lt f t 0 n h
  omega

theorem sumTo_eq_zero (f : Nat → Nat) (n : Nat) (h : sumTo n f = 0) (t : Nat) (ht : t < n) : f t = 0 := by
  have := le_sumTo f t n ht; omega

theorem sumTo_zero_of_all (f : Nat → Nat) (h : ∀ t, f t = 0) : ∀ n, sumTo n f = 0 := by
  intro n
  induction n with
  | zero => rfl
  | succ n ih => simp [sumTo, ih, h n]

/-- the invariant of the `rmwTested` machine -/
structure Inv (T : Nat) (s : St) : Prop where
  /-- every thread's remaining program is well formed for the number of views it owns now -/
  wf : ∀ t, wfM (s.held t) (s.rem t) = true
  out : ∀ t, T ≤ t → s.held t = 0
  /-- not yet freed: the counter is exactly the number of views in existence, and there is one -/
  live : s.frees = 0 → s.count = (sumTo T s.held : Nat) ∧ 1 ≤ sumTo T s.held
  /-- freed: exactly once, and no view is left -/
  dead : s.frees ≠ 0 → s.frees = 1 ∧ sumTo T s.held = 0
  clean : s.touchedAfterFree = 0

theorem Inv.active {T : Nat} {s : St} (h : Inv T s) {t : Nat} (ht : 1 ≤ s.held t) : s.frees = 0 ∧ t < T := by
  have hT : t < T := by
    by_cases hlt : t < T
    · exact hlt
    · have := h.out t (by omega); omega
  refine ⟨?_, hT⟩
  by_cases hf : s.frees = 0
  · exact hf
  · have := (h.dead hf).2
    have := sumTo_eq_zero _ _ this t hT
    omega

theorem mexec_invariant (P : St → Prop) (hstep : ∀ s t, P s → P (mexecStep s t)) :
    ∀ (sched : List Nat) (s : St), P s → P (mexec sched s) := by
  intro sched
  induction sched with
  | nil => intro s h; exact h
  | cons t rest ih => intro s h; exact ih _ (hstep s t h)

theorem inv_step {T : Nat} {s : St} (h : Inv T s) (t : Nat) : Inv T (mexecStep s t) := by
  unfold mexecStep
  cases hrem : s.rem t with
  | nil => exact h
  | cons m r =>
    have hwf := h.wf t
    rw [hrem] at hwf
    -- the per-thread components once `t` owns `n` views and has `r` left to do
    have wf' : ∀ n, wfM n r = true → ∀ u, wfM (upd s.held t n u) (upd s.rem t r u) = true := by
      intro n hr u
      by_cases hu : u = t
      · subst hu; simpa using hr
      · simpa [upd_other _ _ hu] using h.wf u
    have out' : ∀ n, t < T → ∀ u, T ≤ u → upd s.held t n u = 0 := by
      intro n hT u hu
      rw [upd_other _ _ (by omega)]
      exact h.out u hu
    have htouch : s.frees = 0 → touch { s with rem := upd s.rem t r } = { s with rem := upd s.rem t r } := by
      intro hf
      simp [touch, hf]
    have same : wfM (s.held t) r = true → Inv T { s with rem := upd s.rem t r } := by
      intro hr
      have := wf' _ hr
      rw [upd_self] at this
      exact ⟨this, h.out, h.live, h.dead, h.clean⟩
    cases m <;> simp only [wfM, Bool.and_eq_true, decide_eq_true_eq, Bool.false_eq_true] at hwf
    case nop => exact same hwf
    case chk =>
      simp only [mstep, htouch (h.active hwf.1).1]
      exact same hwf.2
    case inc =>
      obtain ⟨hf, hT⟩ := h.active hwf.1
      obtain ⟨hc, h1⟩ := h.live hf
      have hsum := sumTo_upd_lt s.held t (s.held t + 1) T hT
      simp only [mstep, htouch hf]
      exact ⟨wf' _ hwf.2, out' _ hT, fun _ => ⟨by dsimp only; omega, by dsimp only; omega⟩, fun hne => absurd hf hne, h.clean⟩
    case decTest =>
      obtain ⟨hf, hT⟩ := h.active hwf.1
      obtain ⟨hc, h1⟩ := h.live hf
      have hsum := sumTo_upd_lt s.held t (s.held t - 1) T hT
      simp only [mstep, htouch hf]
      -- the counter is the number of views: it reaches 0 exactly when the last view goes
      by_cases hz : s.count - 1 = 0
      · rw [if_pos hz]
        exact ⟨wf' _ hwf.2, out' _ hT, fun hc0 => by simp [hf] at hc0, fun _ => ⟨by simp [hf], by dsimp only; omega⟩, h.clean⟩
      · rw [if_neg hz]
        exact ⟨wf' _ hwf.2, out' _ hT, fun _ => ⟨by dsimp only; omega, by dsimp only; omega⟩, fun hne => absurd hf hne, h.clean⟩

theorem inv_init (T : Nat) (h0 : Nat → Nat) (progs : Nat → List MOp)
    (hwf : ∀ t, t < T → wfM (h0 t) (progs t) = true) (hpos : ∃ t, t < T ∧ 1 ≤ h0 t) :
    Inv T (St.init T h0 progs) := by
  refine ⟨fun t => ?_, fun t ht => ?_, fun _ => ⟨rfl, ?_⟩, fun hne => absurd rfl hne, rfl⟩
  · by_cases ht : t < T
    · simp [St.init, ht, hwf t ht]
    · simp [St.init, ht, wfM]
  · simp [St.init, Nat.not_lt.mpr ht]
  · obtain ⟨t, ht, h1⟩ := hpos
    have := le_sumTo (fun t => if t < T then h0 t else 0) t T ht
    simp only [ht, if_true] at this
    simp only [St.init]
    omega

theorem wfM_zero_all_nop : ∀ (p : List MOp), wfM 0 p = true → ∀ m ∈ p, m = .nop := by
  intro p
  induction p with
  | nil => intro _ m hm; simp at hm
  | cons a r ih =>
    intro h m hm
    cases a <;> simp [wfM] at h
    simp only [List.mem_cons] at hm
    rcases hm with rfl | hm
    · rfl
    · exact ih h m hm

theorem wfM_expand (lead : Bool) : ∀ (p : List LOp) (h : Nat), wfL h p = true → wfM h (expandAll .rmwTested lead p) = true := by
  intro p
  induction p with
  | nil => intro h _; simp [expandAll, wfM]
  | cons a r ih =>
    intro h hw
    simp only [expandAll] at ih
    cases a <;> cases lead <;> simp [wfL] at hw <;> simp [expandAll, expand, wfM, List.flatMap_cons, ih, hw]

def AllNop (s : St) : Prop := ∀ t, ∀ m ∈ s.rem t, m = .nop

theorem allNop_step {s : St} (h : AllNop s) (t : Nat) :
    AllNop (mexecStep s t) ∧ (mexecStep s t).count = s.count ∧ (mexecStep s t).frees = s.frees ∧
      (mexecStep s t).touchedAfterFree = s.touchedAfterFree ∧ (mexecStep s t).held = s.held := by
  unfold mexecStep
  cases hrem : s.rem t with
  | nil => exact ⟨h, rfl, rfl, rfl, rfl⟩
  | cons m r =>
    have hm : m = .nop := h t m (by rw [hrem]; simp)
    subst hm
    refine ⟨fun u m hm => ?_, rfl, rfl, rfl, rfl⟩
    simp only [mstep] at hm
    by_cases hu : u = t
    · subst hu
      rw [upd_same] at hm
      exact h u m (hrem ▸ List.mem_cons_of_mem _ hm)
    · rw [upd_other _ _ hu] at hm
      exact h u m hm

theorem expandAll_soft (sh : Shape) (lead : Bool) (p : List LOp) (h : ∀ o ∈ p, o = .softView ∨ o = .privArray) :
    ∀ m ∈ expandAll sh lead p, m = .nop := by
  intro m hm
  obtain ⟨o, ho, hm⟩ := List.mem_flatMap.mp hm
  rcases h o ho with rfl | rfl <;> simpa [expand] using hm

end NLinks

namespace Ctor

theorem cstep_ptr (sid : Nat) (act f : Bool) (s : CSt) {k : CStep} (hk : k ≠ .activate) :
    (cstep sid act f s k).ptr = s.ptr := by
  cases k <;> simp [cstep, apply_ite CSt.ptr] at hk ⊢

/-- a fault has no effect of its own, and `activate` throws before it assigns -/
theorem cstep_failed_ptr (sid : Nat) (act f : Bool) (s : CSt) (k : CStep)
    (h : (cstep sid act f s k).failed = true) : (cstep sid act f s k).ptr = s.ptr := by
  cases k
  case activate =>
    -- the only branch that assigns is the last one, and there `failed` is still `false`
    by_cases h1 : s.failed = true
    · simp [cstep, h1]
    by_cases h2 : f = true
    · simp [cstep, h1, h2]
    by_cases h3 : act = true
    · by_cases h4 : s.ptr ≠ 0 ∧ s.ptr ≠ sid
      · simp [cstep, h1, h2, h3, h4]
      · simp [cstep, h1, h2, h3, h4] at h
    · simp [cstep, h1, h2, h3]
  all_goals exact cstep_ptr sid act f s (by decide)

end Ctor

end Adept.Threads
