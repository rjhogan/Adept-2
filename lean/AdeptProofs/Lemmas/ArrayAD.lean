import AdeptModel.ArrayAD
import AdeptProofs.Lemmas.Tape
/-!
Lemmas for C03 (`AdeptModel/ArrayAD.lean`).  Every array statement is an odometer loop (`rowsLoop`) around an innermost
loop that carries locations and a memory index beside its state.  `nextIx` is the odometer step, `rowsLoop_sim` the loop
around the rows, `foldl_range_aux` with `atLoc_setLoc`/`advLoc_setLoc` the bookkeeping of an innermost loop; a statement
form then needs only its row.
-/
-- lemmas in the sections below are stated under all the section's instances, whichever they use
set_option linter.unusedSectionVars false
namespace Adept.ArrayAD
open Adept.Tape

theorem foldl_range_rel {α β : Type} (Rel : Nat → α → β → Prop) (f : α → Nat → α) (g : β → Nat → β) (n : Nat)
    (a : α) (b : β) (h0 : Rel 0 a b) (hstep : ∀ j a b, j < n → Rel j a b → Rel (j + 1) (f a j) (g b j)) :
    Rel n ((List.range n).foldl f a) ((List.range n).foldl g b) := by
  induction n with
  | zero => exact h0
  | succ n ih =>
    rw [foldl_range_succ, foldl_range_succ]
    exact hstep n _ _ (Nat.lt_succ_self n) (ih fun j a b hj => hstep j a b (Nat.lt_succ_of_lt hj))

/-- a loop carrying bookkeeping (locations, a memory index) that is `aux j` at position `j` whatever the state; after
    the last position it is not used and need not be `aux n` -/
theorem foldl_range_aux {σ α : Type} (f : σ × α → Nat → σ × α) (g : σ → Nat → σ) (aux : Nat → α) (n : Nat) (s : σ)
    (x0 : α) (h0 : x0 = aux 0)
    (hstep : ∀ s j, j < n → (f (s, aux j) j).1 = g s j ∧ (j + 1 < n → (f (s, aux j) j).2 = aux (j + 1))) :
    ((List.range n).foldl f (s, x0)).1 = (List.range n).foldl g s := by
  refine (foldl_range_rel (fun j p s' => p.1 = s' ∧ (j < n → p.2 = aux j)) f g n (s, x0) s ⟨rfl, fun _ => h0⟩ ?_).1
  rintro j ⟨s', x⟩ _ hj ⟨rfl, hx⟩
  obtain rfl : x = aux j := hx hj
  exact hstep s' j hj

theorem foldl_range_mul {α : Type} (f : α → Nat → α) (a : α) (n m : Nat) :
    (List.range (n * m)).foldl f a =
    (List.range n).foldl (fun a k => (List.range m).foldl (fun a j => f a (k * m + j)) a) a := by
  induction n with
  | zero => simp
  | succ n ih =>
    rw [foldl_range_succ, ← ih, Nat.succ_mul, List.range_add, List.foldl_append, List.foldl_map]

theorem succ_mod_lt {p d : Nat} (hd : 0 < d) (h : p % d + 1 < d) :
    (p + 1) / d = p / d ∧ (p + 1) % d = p % d + 1 := by
  rw [Nat.div_mod_unique hd]
  have := Nat.div_add_mod p d
  omega

theorem succ_mod_wrap {p d : Nat} (hd : 0 < d) (h : p % d + 1 ≥ d) :
    (p + 1) / d = p / d + 1 ∧ (p + 1) % d = 0 := by
  rw [Nat.div_mod_unique hd]
  have h1 := Nat.div_add_mod p d
  have h2 := Nat.mod_lt p hd
  rw [Nat.mul_add, Nat.mul_one]
  omega

theorem idx_succ (index sl : Int) (j : Nat) : index + ((j + 1 : Nat) : Int) * sl = index + (j : Int) * sl + sl := by
  rw [Int.natCast_add, Int.add_mul, Int.natCast_one, Int.one_mul, Int.add_assoc]

def AllPos (l : List Nat) : Prop := ∀ d ∈ l, 0 < d

theorem AllPos.tail {d : Nat} {l : List Nat} (h : AllPos (d :: l)) : AllPos l :=
  fun x hx => h x (List.mem_cons_of_mem _ hx)
theorem AllPos.head {d : Nat} {l : List Nat} (h : AllPos (d :: l)) : 0 < d := h d (List.mem_cons_self ..)

theorem zeros_succ (n : Nat) : zeros (n + 1) = 0 :: zeros n := rfl

theorem unflatR_zero (rd : List Nat) : unflatR rd 0 = zeros rd.length := by
  induction rd with
  | nil => rfl
  | cons d ds ih => rw [unflatR, Nat.zero_mod, Nat.zero_div, ih]; rfl

theorem unflatR_length (rd : List Nat) (p : Nat) : (unflatR rd p).length = rd.length := by
  induction rd generalizing p with
  | nil => rfl
  | cons d ds ih => simp [unflatR, ih]

theorem prod_pos {rd : List Nat} (h : AllPos rd) : 0 < prod rd := by
  induction rd with
  | nil => exact Nat.one_pos
  | cons d ds ih => exact Nat.mul_pos h.head (ih h.tail)

theorem dotR_nil_right (ri : List Nat) : dotR ri [] = 0 := by cases ri <;> rfl

theorem dotR_zeros (n : Nat) (rs : List Int) : dotR (zeros n) rs = 0 := by
  induction n generalizing rs with
  | zero => cases rs <;> rfl
  | succ n ih =>
    cases rs with
    | nil => rfl
    | cons s ss => rw [zeros_succ, dotR, ih ss]; simp

theorem dotR_zero_strides (ri : List Nat) (l : List Nat) : dotR ri (l.map (fun _ => (0 : Int))) = 0 := by
  induction ri generalizing l with
  | nil => rfl
  | cons i is ih =>
    cases l with
    | nil => rfl
    | cons d ds => simp only [List.map_cons, dotR, ih ds]; simp

theorem dotR_append (a b : List Nat) (u w : List Int) (h : a.length = u.length) :
    dotR (a ++ b) (u ++ w) = dotR a u + dotR b w := by
  induction a generalizing u with
  | nil =>
    obtain rfl : u = [] := List.length_eq_zero_iff.mp h.symm
    exact (Int.zero_add _).symm
  | cons x a ih =>
    cases u with
    | nil => simp at h
    | cons y u =>
      simp only [List.cons_append, dotR]
      rw [ih u (by simpa using h), Int.add_assoc]

theorem rows_inner_eq_flat {σ : Type} (F : σ → List Nat → σ) (dl : Nat) (rd : List Nat) (s : σ) :
    (List.range (prod rd)).foldl (fun s k => (List.range dl).foldl (fun s j => F s (j :: unflatR rd k)) s) s =
    (List.range (prod (dl :: rd))).foldl (fun s p => F s (unflatR (dl :: rd) p)) s := by
  rw [prod, Nat.mul_comm, foldl_range_mul]
  congr 1
  funext a k
  refine List.foldl_ext _ _ _ fun a j hj => ?_
  have hj := List.mem_range.mp hj
  rw [unflatR, Nat.add_comm (k * dl), add_mul_div_of_lt hj, add_mul_mod_of_lt hj]

/-- the odometer step on a multi-index (innermost first), and whether it has just left the last index; `advance_index`
    (Array.h) and the `i`/`inew` walk of `reduce_dimension` are this with their own bookkeeping beside it -/
def nextIx : List Nat → List Nat → List Nat × Bool
  | d :: ds, i :: is => if i + 1 < d then ((i + 1) :: is, false) else (0 :: (nextIx ds is).1, (nextIx ds is).2)
  | _, is => (is, true)

theorem nextIx_unflat (rd : List Nat) (hp : AllPos rd) (p : Nat) (hlt : p < prod rd) :
    nextIx rd (unflatR rd p) =
      if p + 1 < prod rd then (unflatR rd (p + 1), false) else (zeros rd.length, true) := by
  induction rd generalizing p with
  | nil =>
    obtain rfl : p = 0 := Nat.lt_one_iff.mp hlt
    rfl
  | cons d ds ih =>
    have hd : 0 < d := hp.head
    have hq : p / d < prod ds := (Nat.div_lt_iff_lt_mul hd).mpr (Nat.mul_comm d _ ▸ hlt)
    have hiff : p + 1 < prod (d :: ds) ↔ (p + 1) / d < prod ds := by
      rw [prod, Nat.div_lt_iff_lt_mul hd, Nat.mul_comm]
    simp only [unflatR, nextIx, hiff]
    by_cases hw : p % d + 1 < d
    · obtain ⟨e1, e2⟩ := succ_mod_lt hd hw
      rw [if_pos hw, e1, e2, if_pos hq]
    · obtain ⟨e1, e2⟩ := succ_mod_wrap hd (Nat.le_of_not_lt hw)
      rw [if_neg hw, ih hp.tail _ hq, e1, e2]
      split <;> rfl

theorem advIndex_eq_nextIx (rd : List Nat) (rs : List Int) (hl : rs.length = rd.length) (hp : AllPos rd)
    (p : Nat) (base : Int) :
    advIndex rd rs (unflatR rd p) (base + dotR (unflatR rd p) rs) =
      ((nextIx rd (unflatR rd p)).1, base + dotR (nextIx rd (unflatR rd p)).1 rs, (nextIx rd (unflatR rd p)).2) := by
  induction rd generalizing rs p with
  | nil =>
    obtain rfl : rs = [] := List.length_eq_zero_iff.mp hl
    rfl
  | cons d ds ih =>
    cases rs with
    | nil => simp at hl
    | cons s ss =>
      have hm := Nat.mod_lt p hp.head
      simp only [unflatR, dotR, advIndex, nextIx]
      by_cases hw : p % d + 1 < d
      · rw [if_neg (Nat.not_le_of_lt hw), if_pos hw]
        rw [dotR, Int.natCast_add, Int.add_mul, Int.natCast_one, Int.one_mul]
        congr 2
        omega
      · -- the entry is `d-1`: taking `s·(d-1)` off the memory index puts this dimension back to its start
        have hidx : base + (((p % d : Nat) : Int) * s + dotR (unflatR ds (p / d)) ss) - s * ((d : Int) - 1)
            = base + dotR (unflatR ds (p / d)) ss := by
          have hi : ((p % d : Nat) : Int) = (d : Int) - 1 := by omega
          rw [hi, Int.mul_comm]; omega
        rw [if_pos (Nat.le_of_not_lt hw), if_neg hw, hidx, ih ss (by simpa using hl) hp.tail]
        simp only [dotR, Int.natCast_zero, Int.zero_mul, Int.zero_add]

theorem advIndex_unflat (rd : List Nat) (rs : List Int) (hl : rs.length = rd.length) (hp : AllPos rd)
    (p : Nat) (base : Int) (hlt : p < prod rd) :
    advIndex rd rs (unflatR rd p) (base + dotR (unflatR rd p) rs) =
      if p + 1 < prod rd then (unflatR rd (p + 1), base + dotR (unflatR rd (p + 1)) rs, false)
      else (zeros rd.length, base, true) := by
  rw [advIndex_eq_nextIx rd rs hl hp, nextIx_unflat rd hp p hlt]
  split
  · rfl
  · rw [dotR_zeros, Int.add_zero]

theorem doWhile_eq_foldl {σ : Type} (L : Nat → Nat → σ → σ) (body : σ → Nat → σ) (n : Nat)
    (hstep : ∀ m p s, p < n → L (m + 1) p s = if p + 1 < n then L m (p + 1) (body s p) else body s p)
    (hn : 0 < n) (s : σ) : L n 0 s = (List.range n).foldl body s := by
  have key : ∀ m p s, p + (m + 1) = n → L (m + 1) p s = (List.range' p (m + 1)).foldl body s := by
    intro m
    induction m with
    | zero =>
      intro p s hpm
      rw [hstep 0 p s (by omega), if_neg (by omega)]
      rfl
    | succ m ih =>
      intro p s hpm
      rw [hstep (m + 1) p s (by omega), if_pos (by omega), ih (p + 1) _ (by omega)]
      rfl
  have := key (n - 1) 0 s (by omega)
  rwa [Nat.sub_add_cancel hn, ← List.range_eq_range'] at this

theorem rowsLoop_eq {σ : Type} (row : σ → List Nat → Int → σ) (rd : List Nat) (rs : List Int)
    (hl : rs.length = rd.length) (hp : AllPos rd) (dl : Nat) (sl : Int) (base : Int) (s : σ) :
    rowsLoop row rd rs dl sl (prod rd) (zeros rd.length) base s =
      (List.range (prod rd)).foldl (fun s k => row s (unflatR rd k) (base + dotR (unflatR rd k) rs)) s := by
  have := doWhile_eq_foldl
    (fun m p s => rowsLoop row rd rs dl sl m (unflatR rd p) (base + dotR (unflatR rd p) rs) s)
    (fun s p => row s (unflatR rd p) (base + dotR (unflatR rd p) rs)) (prod rd) ?_ (prod_pos hp) s
  · simpa only [unflatR_zero, dotR_zeros, Int.add_zero] using this
  · intro m p s hlt
    have hcancel : base + dotR (unflatR rd p) rs + (dl : Int) * sl - sl * (dl : Int) = base + dotR (unflatR rd p) rs := by
      rw [Int.mul_comm sl]; omega
    rw [rowsLoop, hcancel, advIndex_unflat rd rs hl hp p base hlt]
    by_cases h : p + 1 < prod rd
    · rw [if_pos h, if_pos h]
      rfl
    · rw [if_neg h, if_neg h]
      rfl

/-- if every row, at its own memory index, does up to `Rel` what `F` does over `j :: ri`, the `do … while` loop does what
    `F` does over all positions in index order; every array statement is this with its own `F` -/
theorem rowsLoop_sim {σ τ : Type} (Rel : σ → τ → Prop) (row : σ → List Nat → Int → σ) (F : τ → List Nat → τ)
    (dl : Nat) (rd : List Nat) (sl : Int) (rs : List Int) (hl : rs.length = rd.length) (hp : AllPos rd) (base : Int)
    (hrow : ∀ s x ri, Rel s x →
      Rel (row s ri (base + dotR ri rs)) ((List.range dl).foldl (fun x j => F x (j :: ri)) x))
    (s : σ) (x : τ) (h0 : Rel s x) :
    Rel (rowsLoop row rd rs dl sl (prod rd) (zeros rd.length) base s)
      ((List.range (prod (dl :: rd))).foldl (fun x p => F x (unflatR (dl :: rd) p)) x) := by
  rw [rowsLoop_eq row rd rs hl hp, ← rows_inner_eq_flat F dl rd]
  exact List.foldl_rel h0 fun k _ s x h => hrow s x _ h

/-- what the loops need of a target array or view -/
structure TargetOK (t : View) : Prop where
  rank : t.dims ≠ []
  lens : t.strides.length = t.dims.length
  pos : ∀ d ∈ t.dims, 0 < d

theorem TargetOK.split {t : View} (h : TargetOK t) :
    ∃ dl rd sl rs, t.rdims = dl :: rd ∧ t.rstrides = sl :: rs ∧ rs.length = rd.length ∧ AllPos (dl :: rd) := by
  have hl : t.rdims.length = t.dims.length := List.length_reverse
  have hs : t.rstrides.length = t.dims.length := List.length_reverse.trans h.lens
  have hne : 0 < t.dims.length := List.length_pos_iff.mpr h.rank
  cases hrd : t.rdims with
  | nil => rw [hrd] at hl; simp at hl; omega
  | cons dl rd =>
    cases hrs : t.rstrides with
    | nil => rw [hrs] at hs; simp at hs; omega
    | cons sl rs =>
      refine ⟨dl, rd, sl, rs, rfl, rfl, ?_, ?_⟩
      · rw [hrd] at hl; rw [hrs] at hs; simp at hl hs; omega
      · intro d hd
        have : d ∈ t.rdims := by rw [hrd]; exact hd
        exact h.pos d (List.mem_reverse.mp this)

theorem rowsLoop_view {σ τ : Type} (Rel : σ → τ → Prop) (t : View) (ht : TargetOK t)
    (row : σ → List Nat → Int → σ) (F : τ → List Nat → τ)
    (hrow : ∀ s x ri, Rel s x → Rel (row s ri (t.off + dotR ri t.rstrides.tail))
      ((List.range (t.rdims.headD 0)).foldl (fun x j => F x (j :: ri)) x))
    (s : σ) (x : τ) (h0 : Rel s x) :
    Rel (rowsLoop row t.rdims.tail t.rstrides.tail (t.rdims.headD 0) (t.rstrides.headD 0) (nRows t.rdims)
        (zeros t.rdims.tail.length) t.off s)
      ((List.range (prod t.rdims)).foldl (fun x p => F x (unflatR t.rdims p)) x) := by
  obtain ⟨dl, rd, sl, rs, hrd, hrs, hl, hp⟩ := ht.split
  rw [hrd, hrs] at hrow ⊢
  exact rowsLoop_sim Rel row F dl rd sl rs hl hp.tail t.off hrow s x h0

section Locs
variable {R : Type}

/-- well-formed leaf geometry for a statement of rank `rank ≥ 1` whose innermost extent is `dl`:
    an Array leaf has as many strides as dimensions and is either an adouble (no dimensions) or of the statement's
    rank; an IndexedArray leaf has one index vector and one stride per dimension and its innermost index vector has
    `dl` entries.  (Extents of Array leaves are irrelevant to the loops: only addresses matter.) -/
def AExpr.WF (rank dl : Nat) : AExpr R → Prop
  | .arr v => v.strides.length = v.dims.length ∧ (v.dims = [] ∨ v.dims.length = rank)
  | .idx v rix => rix.length = rank ∧ v.strides.length = rank ∧ (rix.headD []).length = dl
  | .const _ => True
  | .add a b | .sub a b | .mul a b | .div a b | .max a b | .min a b => a.WF rank dl ∧ b.WF rank dl
  | .neg a | .noalias a | .abs a => a.WF rank dl

theorem setLoc_length (e : AExpr R) (ri : List Nat) : (e.setLoc ri).length = e.nArrays := by
  induction e with
  | arr v => simp only [AExpr.setLoc, AExpr.nArrays]; split <;> simp
  | idx v rix => simp [AExpr.setLoc, AExpr.nArrays]
  | const x => rfl
  | add a b iha ihb | sub a b iha ihb | mul a b iha ihb | div a b iha ihb | max a b iha ihb | min a b iha ihb =>
    simp [AExpr.setLoc, AExpr.nArrays, iha, ihb]
  | neg a ih | noalias a ih | abs a ih => simpa [AExpr.setLoc, AExpr.nArrays] using ih

theorem View.rstrides_length (v : View) : v.rstrides.length = v.strides.length := by simp [View.rstrides]

/-- `value_at_location_`/`calc_gradient_` after `set_location_(i)` address element `i` -/
theorem atLoc_setLoc (e : AExpr R) (rank dl : Nat) (hw : e.WF rank dl) (j : Nat) (r : List Nat) :
    e.atLoc (e.setLoc (j :: r)) = e.at (j :: r) := by
  induction e with
  | arr v =>
    simp only [AExpr.atLoc, AExpr.setLoc, AExpr.at]
    by_cases he : v.dims.isEmpty = true
    · -- an adouble has no strides
      have hs : v.rstrides = [] := by
        rw [← List.length_eq_zero_iff, View.rstrides_length, hw.1, List.isEmpty_iff.mp he]; rfl
      simp [he, hs, dotR_nil_right]
    · simp [he]
  | idx v rix =>
    -- whatever the lengths: a missing index vector or stride contributes 0 on both sides
    simp only [AExpr.atLoc, AExpr.setLoc, AExpr.at]
    cases rix with
    | nil => simp [xlate, dotR, lookup]
    | cons ix0 ixs =>
      cases v.rstrides with
      | nil => simp [dotR_nil_right]
      | cons s0 ss =>
        simp only [List.tail_cons, List.headD_cons, xlate, dotR, List.getD_cons_succ, List.getD_cons_zero]
        congr 1
        congr 1
        rw [Int.mul_comm]
        omega
  | const x => rfl
  | add a b iha ihb | sub a b iha ihb | mul a b iha ihb | div a b iha ihb | max a b iha ihb | min a b iha ihb =>
    dsimp only [AExpr.atLoc, AExpr.setLoc, AExpr.at]
    rw [List.take_left' (setLoc_length a _), List.drop_left' (setLoc_length a _), iha hw.1, ihb hw.2]
  | neg a ih | noalias a ih | abs a ih =>
    dsimp only [AExpr.atLoc, AExpr.setLoc, AExpr.at]; rw [ih hw]

/-- `advance_location_` after `set_location_(j, r)` is `set_location_(j+1, r)` while the row lasts -/
theorem advLoc_setLoc (e : AExpr R) (rank dl : Nat) (hw : e.WF rank dl) (j : Nat) (r : List Nat)
    (hj : j + 1 < dl) : e.advLoc (e.setLoc (j :: r)) = e.setLoc ((j + 1) :: r) := by
  induction e with
  | arr v =>
    simp only [AExpr.advLoc, AExpr.setLoc]
    by_cases he : v.dims.isEmpty = true
    · simp [he]
    · simp only [he, Bool.false_eq_true, if_false, List.headD_cons]
      cases v.rstrides with
      | nil => simp [dotR_nil_right]
      | cons s0 ss =>
        simp only [dotR, List.headD_cons]
        have : (((j + 1 : Nat) : Int)) * s0 = (j : Int) * s0 + s0 := by
          rw [Int.natCast_add, Int.add_mul]; simp
        rw [this]
        congr 1
        omega
  | idx v rix =>
    obtain ⟨h1, h2, h3⟩ := hw
    simp only [AExpr.advLoc, AExpr.setLoc, List.getD_cons_zero, List.getD_cons_succ, List.headD_cons, List.tail_cons]
    have hc : ((j : Int) + 1 < ((rix.headD []).length : Int)) := by rw [h3]; omega
    rw [if_pos hc]
    have : ((j : Int) + 1).toNat = j + 1 := by omega
    rw [this]
    simp
  | const x => rfl
  | add a b iha ihb | sub a b iha ihb | mul a b iha ihb | div a b iha ihb | max a b iha ihb | min a b iha ihb =>
    dsimp only [AExpr.advLoc, AExpr.setLoc]
    rw [List.take_left' (setLoc_length a _), List.drop_left' (setLoc_length a _), iha hw.1, ihb hw.2]
  | neg a ih | noalias a ih | abs a ih =>
    dsimp only [AExpr.advLoc, AExpr.setLoc]; rw [ih hw]

/-- in the `++index` branch every array has innermost stride 1, so incrementing all locations is `advance_location_` -/
theorem contig_advLoc (e : AExpr R) (l : List Int) (hc : e.contig = true) (hl : l.length = e.nArrays) :
    l.map (· + 1) = e.advLoc l := by
  induction e generalizing l with
  | arr v =>
    simp only [AExpr.contig, Bool.or_eq_true, beq_iff_eq] at hc
    simp only [AExpr.advLoc, AExpr.nArrays] at hl ⊢
    by_cases he : v.dims.isEmpty = true
    · simp only [he, if_true] at hl ⊢
      simp [List.length_eq_zero_iff.mp hl]
    · simp only [he, Bool.false_eq_true, if_false] at hl ⊢
      have h1 : v.rstrides.headD 0 = 1 := by
        cases hc with
        | inl h => exact absurd h he
        | inr h => exact h
      rw [h1]
      match l, hl with
      | [x], _ => simp
  | idx v rix => simp [AExpr.contig] at hc
  | const x => simp only [AExpr.nArrays] at hl; simp [AExpr.advLoc, List.length_eq_zero_iff.mp hl]
  | add a b iha ihb | sub a b iha ihb | mul a b iha ihb | div a b iha ihb | max a b iha ihb | min a b iha ihb =>
    simp only [AExpr.contig, Bool.and_eq_true] at hc
    simp only [AExpr.nArrays] at hl
    simp only [AExpr.advLoc]
    have hla : (l.take a.nArrays).length = a.nArrays := by
      rw [List.length_take, hl]; exact Nat.min_eq_left (Nat.le_add_right ..)
    have hlb : (l.drop a.nArrays).length = b.nArrays := by
      rw [List.length_drop, hl, Nat.add_sub_cancel_left]
    rw [← iha _ hc.1 hla, ← ihb _ hc.2 hlb, ← List.map_append, List.take_append_drop]
  | neg a ih | noalias a ih =>
    simp only [AExpr.contig] at hc
    simp only [AExpr.nArrays] at hl
    simp only [AExpr.advLoc]; exact ih _ hc hl
  | abs a ih => simp [AExpr.contig] at hc

/-- both branches of `assign_expression_` step the locations identically -/
theorem next_setLoc (e : AExpr R) (rank dl : Nat) (hw : e.WF rank dl) (j : Nat) (r : List Nat)
    (hj : j + 1 < dl) : e.next (e.setLoc (j :: r)) = e.setLoc ((j + 1) :: r) := by
  unfold AExpr.next
  split
  · rename_i hc
    rw [contig_advLoc e _ hc (setLoc_length e _)]
    exact advLoc_setLoc e rank dl hw j r hj
  · exact advLoc_setLoc e rank dl hw j r hj

end Locs

section MemFacts
variable {R : Type} [Zero R]

theorem store_sto? (m : Mem R) (c : Cell) (v : R) (sid : Nat) :
    (m.store c v).sto? sid =
      (m.sto? sid).map (fun x => if sid = c.1 ∧ ¬ c.2 < 0 then { x with cells := x.cells.set c.2.toNat v } else x) := by
  unfold Mem.store
  by_cases hneg : c.2 < 0
  · rw [if_pos hneg]
    have : (fun (x : Sto R) => if sid = c.1 ∧ ¬ c.2 < 0 then { x with cells := x.cells.set c.2.toNat v } else x) = id := by
      funext x; simp [hneg]
    rw [this, Option.map_id]; rfl
  · rw [if_neg hneg]
    unfold Mem.sto?
    induction m with
    | nil => rfl
    | cons p m ih =>
      rw [List.map_cons, List.find?_cons, List.find?_cons]
      have hg1 : (if p.1 = c.1 then (p.1, ({ p.2 with cells := p.2.cells.set c.2.toNat v } : Sto R)) else p).1 = p.1 := by
        split <;> rfl
      rw [hg1]
      by_cases hs : p.1 = sid
      · simp only [hs, decide_true, Option.map_some]
        by_cases hc : sid = c.1
        · simp [hc, hneg]
        · simp [hc]
      · simp only [hs, decide_false]
        exact ih

theorem store_isActive (m : Mem R) (c : Cell) (v : R) (sid : Nat) : (m.store c v).isActive sid = m.isActive sid := by
  unfold Mem.isActive
  rw [store_sto?]
  cases m.sto? sid with
  | none => rfl
  | some x => simp only [Option.map_some]; split <;> rfl

theorem store_gidx (m : Mem R) (c : Cell) (v : R) (c' : Cell) : (m.store c v).gidx c' = m.gidx c' := by
  unfold Mem.gidx
  rw [store_sto?]
  cases m.sto? c'.1 with
  | none => rfl
  | some x => simp only [Option.map_some]; split <;> rfl

theorem store_gbase (m : Mem R) (c : Cell) (v : R) (sid : Nat) :
    ((m.store c v).sto? sid).map (·.gbase) = (m.sto? sid).map (·.gbase) := by
  rw [store_sto?]
  cases m.sto? sid with
  | none => rfl
  | some x => simp only [Option.map_some]; split <;> rfl

theorem isActive_store_fun (m : Mem R) (c : Cell) (v : R) : (m.store c v).isActive = m.isActive := by
  funext sid; exact store_isActive m c v sid

theorem gidx_of_gbase (m : Mem R) (c : Cell) (g0 : Nat) (h : (m.sto? c.1).map (·.gbase) = some g0) :
    m.gidx c = ((g0 : Int) + c.2).toNat := by
  unfold Mem.gidx
  cases hq : m.sto? c.1 with
  | none => rw [hq] at h; cases h
  | some y => rw [hq] at h; cases h; rfl

end MemFacts


section Loops
variable {R : Type} [Zero R] [Add R] [Sub R] [Mul R] [Div R] [Neg R] [One R] [LT R] [DecidableLT R]

theorem St.ext' (a b : St R) (h1 : a.mem = b.mem) (h2 : a.tape = b.tape) : a = b := by
  cases a; cases b; simp_all

theorem runS_some (s : St R) (g : SMask R) (c : Cell) (x : SExpr R) :
    runS s ⟨some g, c, x⟩ = if g.eval s.mem then elemStep s c x else s := rfl

theorem runS_none (s : St R) (c : Cell) (x : SExpr R) : runS s ⟨none, c, x⟩ = elemStep s c x := rfl

theorem runProg_map {ι : Type} (s : St R) (l : List ι) (f : ι → SStmt R) :
    runProg s (l.map f) = l.foldl (fun s p => runS s (f p)) s := List.foldl_map

theorem runProg_append (s : St R) (a b : List (SStmt R)) : runProg s (a ++ b) = runProg (runProg s a) b :=
  List.foldl_append

theorem View.cellAt_cons (t : View) (j : Nat) (ri : List Nat) :
    t.cellAt (j :: ri) = (t.sid, t.off + dotR ri t.rstrides.tail + (j : Int) * t.rstrides.headD 0) := by
  unfold View.cellAt
  cases t.rstrides with
  | nil => simp [dotR, dotR_nil_right]
  | cons sl rs =>
    simp only [dotR, List.tail_cons, List.headD_cons]
    congr 1
    omega

/-- the innermost loop of `assign_expression_` (either branch) is the scalar statements of the row, in order -/
theorem assignRow_eq (t : View) (e : AExpr R) (rank : Nat) (hw : e.WF rank (t.rdims.headD 0))
    (s : St R) (ri : List Nat) (index : Int) :
    assignRow t e s ri index =
      (List.range (t.rdims.headD 0)).foldl (fun s (j : Nat) =>
        elemStep s (t.sid, index + (j : Int) * t.rstrides.headD 0) (e.at (j :: ri))) s := by
  refine foldl_range_aux _ _ (fun j => (e.setLoc (j :: ri), index + (j : Int) * t.rstrides.headD 0)) _ s _ (by simp) ?_
  intro s j hj
  refine ⟨?_, fun hj' => ?_⟩
  · show elemStep s _ (e.atLoc (e.setLoc (j :: ri))) = _
    rw [atLoc_setLoc e rank _ hw]
  · show (e.next (e.setLoc (j :: ri)), _) = _
    rw [next_setLoc e rank _ hw j ri hj', idx_succ]

/-- `Array::operator=(const Active&)`: the row of statements `T[j] = scalar` -/
theorem assignScalarRow_eq (t : View) (c : Cell) (s : St R) (ri : List Nat) (index : Int) :
    assignScalarRow t c s ri index =
      (List.range (t.rdims.headD 0)).foldl (fun s (j : Nat) =>
        elemStep s (t.sid, index + (j : Int) * t.rstrides.headD 0) (.cell c)) s := by
  refine foldl_range_aux _ _ (fun j => index + (j : Int) * t.rstrides.headD 0) _ s _ (by simp) ?_
  intro s j hj
  exact ⟨rfl, fun _ => (idx_succ ..).symm⟩

theorem at_grad_passive (e : AExpr R) (m : Mem R) (h : e.isActive m.isActive = false) (ri : List Nat) (w : Option R) :
    (e.at ri).grad m w = [] := by
  induction e generalizing w with
  | arr v => simp only [AExpr.isActive] at h; simp [AExpr.at, SExpr.grad, h]
  | idx v rix => simp only [AExpr.isActive] at h; simp [AExpr.at, SExpr.grad, h]
  | const x => rfl
  | add a b iha ihb | sub a b iha ihb | mul a b iha ihb | div a b iha ihb | max a b iha ihb | min a b iha ihb =>
    simp only [AExpr.isActive, Bool.or_eq_false_iff] at h
    simp only [AExpr.at, SExpr.grad, iha h.1, ihb h.2, List.append_nil, ite_self]
  | neg a ih | noalias a ih | abs a ih =>
    simp only [AExpr.isActive] at h
    simp only [AExpr.at, SExpr.grad, ih h]

/-- `assign_expression_<Rank,true,false>`: pushing the row with `push_lhs_range` and then storing the values is the row
    of scalar statements `T[j] = passive value`; the next row finds the same hypotheses -/
theorem assignPassiveRow_eq (t : View) (e : AExpr R) (rank : Nat) (hw : e.WF rank (t.rdims.headD 0))
    (s : St R) (ri : List Nat) (index : Int) (g0 : Nat) (hsto : (s.mem.sto? t.sid).map (·.gbase) = some g0)
    (hpass : e.isActive s.mem.isActive = false) :
    assignPassiveRow t e s ri index =
      (List.range (t.rdims.headD 0)).foldl (fun s (j : Nat) =>
        elemStep s (t.sid, index + (j : Int) * t.rstrides.headD 0) (e.at (j :: ri))) s ∧
    (assignPassiveRow t e s ri index).mem.isActive = s.mem.isActive ∧
    ((assignPassiveRow t e s ri index).mem.sto? t.sid).map (·.gbase) = some g0 := by
  unfold assignPassiveRow
  obtain ⟨y, hq, rfl⟩ : ∃ y, s.mem.sto? t.sid = some y ∧ y.gbase = g0 := by
    cases hq : s.mem.sto? t.sid with
    | none => rw [hq] at hsto; cases hsto
    | some y => rw [hq] at hsto; cases hsto; exact ⟨y, rfl, rfl⟩
  simp only [hq]
  -- the left-hand sides of the first `n` elements
  let tp : Nat → List (Stmt R) := fun n => (List.range n).map fun (k : Nat) =>
    ⟨((y.gbase : Int) + index + (k : Int) * t.rstrides.headD 0).toNat, []⟩
  -- the batched loop `p` has the whole row on its tape from the start, the scalar loop `q` the first `j` elements
  let Rel : Nat → St R × List Int × Int → St R → Prop := fun j p q =>
    p.1.mem = q.mem ∧ p.1.tape = s.tape ++ tp (t.rdims.headD 0) ∧ q.tape = s.tape ++ tp j ∧
    (j < t.rdims.headD 0 → p.2.1 = e.setLoc (j :: ri)) ∧ p.2.2 = index + (j : Int) * t.rstrides.headD 0 ∧
    q.mem.isActive = s.mem.isActive ∧ (q.mem.sto? t.sid).map (·.gbase) = some y.gbase
  have fin : ∀ p q, Rel (t.rdims.headD 0) p q →
      p.1 = q ∧ p.1.mem.isActive = s.mem.isActive ∧ (p.1.mem.sto? t.sid).map (·.gbase) = some y.gbase := by
    rintro p q ⟨k1, k2, k3, _, _, k6, k7⟩
    exact ⟨St.ext' _ _ k1 (k2.trans k3.symm), k1 ▸ k6, k1 ▸ k7⟩
  refine fin _ _ (foldl_range_rel Rel _ _ _ _ _ ⟨rfl, rfl, by simp [tp], fun _ => rfl, by simp, rfl, hsto⟩ ?_)
  rintro j ⟨p, l, ix⟩ q hj ⟨h1, h2, h3, h4, h5, h6, h7⟩
  simp only at h1 h2 h4 h5
  obtain rfl := h4 hj
  subst h5
  refine ⟨?_, h2, ?_, fun hj' => advLoc_setLoc e rank _ hw j ri hj', (idx_succ ..).symm, ?_, ?_⟩
  · show Mem.store _ _ _ = Mem.store _ _ _
    rw [h1, atLoc_setLoc e rank _ hw]
  · show q.tape ++ [_] = _
    rw [h3, at_grad_passive e _ (h6 ▸ hpass), gidx_of_gbase _ _ _ h7, List.append_assoc]
    simp only [tp, List.range_succ, List.map_append, List.map_cons, List.map_nil, Int.add_assoc]
  · show (Mem.store _ _ _).isActive = _
    rw [isActive_store_fun, h6]
  · show ((Mem.store _ _ _).sto? t.sid).map _ = _
    rw [store_gbase, h7]

section Where

def AMask.WF (rank dl : Nat) (k : AMask R) : Prop := k.a.WF rank dl ∧ k.b.WF rank dl

/-- the two sides of a mask take their locations like the operands of a binary node -/
theorem mask_atLoc_setLoc (k : AMask R) (rank dl : Nat) (hw : k.WF rank dl) (j : Nat) (r : List Nat) :
    k.atLoc (k.setLoc (j :: r)) = k.at (j :: r) := by
  have h := SExpr.max.inj (atLoc_setLoc (.max k.a k.b) rank dl hw j r)
  exact congrArg₂ (SMask.mk k.neg) h.1 h.2

theorem mask_advLoc_setLoc (k : AMask R) (rank dl : Nat) (hw : k.WF rank dl) (j : Nat) (r : List Nat)
    (hj : j + 1 < dl) : k.advLoc (k.setLoc (j :: r)) = k.setLoc ((j + 1) :: r) :=
  advLoc_setLoc (.max k.a k.b) rank dl hw j r hj

/-- the innermost loop of `assign_conditional_<true>`: whatever `is_gap` was on entry, and however the right-hand
    side's location went stale over masked-out elements, each selected element is assigned ITS element of the
    right-hand side (the `set_location` resynchronisation) -/
theorem whereRow_eq (t : View) (k : AMask R) (e : AExpr R) (rank : Nat)
    (hw : e.WF rank (t.rdims.headD 0)) (hk : k.WF rank (t.rdims.headD 0))
    (s : St R) (gap : Bool) (ri : List Nat) (index : Int) :
    (whereRow t k e (s, gap) ri index).1 =
      (List.range (t.rdims.headD 0)).foldl (fun s (j : Nat) =>
        runS s ⟨some (k.at (j :: ri)), (t.sid, index + (j : Int) * t.rstrides.headD 0), e.at (j :: ri)⟩) s := by
  -- the mask's location and the memory index are those of position `j`; the right-hand side's location is, unless
  -- `is_gap` is set — and then it is set afresh before it is used
  refine (foldl_range_rel (fun j (p : St R × Bool × List Int × List Int × Int) (q : St R) =>
      p.1 = q ∧ (j < t.rdims.headD 0 → p.2.2.1 = k.setLoc (j :: ri)) ∧
      (j < t.rdims.headD 0 → p.2.1 = false → p.2.2.2.1 = e.setLoc (j :: ri)) ∧
      p.2.2.2.2 = index + (j : Int) * t.rstrides.headD 0)
    _ _ (t.rdims.headD 0) _ s ⟨rfl, fun _ => rfl, fun _ _ => rfl, by simp⟩ ?_).1
  rintro j ⟨s', g', lb, lr, ix⟩ q hj ⟨rfl, h2, h3, h4⟩
  simp only at h2 h3 h4
  obtain rfl := h2 hj
  subst h4
  have hlr : (if g' = true then e.setLoc (j :: ri) else lr) = e.setLoc (j :: ri) := by
    cases g' with
    | true => rfl
    | false => exact h3 hj rfl
  simp only [mask_atLoc_setLoc k rank _ hk, hlr, atLoc_setLoc e rank _ hw, runS_some]
  by_cases hm : (k.at (j :: ri)).eval s'.mem = true
  · simp only [hm, if_true]
    exact ⟨trivial, fun hj' => mask_advLoc_setLoc k rank _ hk j ri hj',
      fun hj' _ => advLoc_setLoc e rank _ hw j ri hj', (idx_succ ..).symm⟩
  · simp only [hm, Bool.false_eq_true, if_false]
    exact ⟨trivial, fun hj' => mask_advLoc_setLoc k rank _ hk j ri hj', fun _ h => Bool.noConfusion h,
      (idx_succ ..).symm⟩

end Where

/-- innermost loop of `IndexedArray::assign_expression_` -/
theorem idxRow_eq (t : View) (rix : List (List Nat)) (e : AExpr R) (rank : Nat)
    (hw : e.WF rank (rix.headD []).length) (s : St R) (ri : List Nat) (index : Int) :
    idxRow t rix e s ri index =
      (List.range (rix.headD []).length).foldl (fun s (j : Nat) =>
        elemStep s (t.cellAt (xlate rix (j :: ri))) (e.at (j :: ri))) s := by
  refine foldl_range_aux _ _ (fun j => e.setLoc (j :: ri)) _ s _ rfl ?_
  intro s j hj
  refine ⟨?_, fun hj' => advLoc_setLoc e rank _ hw j ri hj'⟩
  show elemStep s _ (e.atLoc (e.setLoc (j :: ri))) = _
  rw [atLoc_setLoc e rank _ hw]
  congr 1
  cases rix with
  | nil => simp [xlate, View.cellAt, dotR, lookup]
  | cons ix0 ixs => rw [xlate, View.cellAt_cons, Int.mul_comm (t.rstrides.headD 0)]; rfl

end Loops

section TempView
variable {R : Type}

theorem tempView_dims (sid : Nat) (dims : List Nat) (W : Nat) : (tempView sid dims W).1.dims = dims := by
  unfold tempView
  cases h : dims.reverse with
  | nil => simp only; exact (List.reverse_eq_nil_iff.mp h).symm
  | cons dl rest => rfl

theorem tempView_strides_length (sid : Nat) (dims : List Nat) (W : Nat) :
    (tempView sid dims W).1.strides.length = dims.length := by
  have key : ∀ (rest : List Nat) (l : List Int) (x : Int),
      (rest.foldl (fun (acc : List Int × Int) (d : Nat) => (acc.1 ++ [acc.2], acc.2 * (d : Int))) (l, x)).1.length =
        l.length + rest.length := by
    intro rest
    induction rest with
    | nil => intro l x; simp
    | cons d rest ih => intro l x; rw [List.foldl_cons, ih]; simp; omega
  unfold tempView
  cases h : dims.reverse with
  | nil => simp only; rw [List.reverse_eq_nil_iff.mp h]; rfl
  | cons dl rest =>
    simp only [List.length_reverse, key]
    have : dims.length = (dl :: rest).length := by rw [← h, List.length_reverse]
    rw [this]; simp; omega

end TempView

end Adept.ArrayAD
