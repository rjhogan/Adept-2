import AdeptModel.Interp
import Mathlib.Tactic.Linarith
import Mathlib.Tactic.Ring
import Mathlib.Tactic.FieldSimp
import Mathlib.Algebra.Order.Field.Basic
/-! Lemmas for C20 (interpolation).  Everything is about `AdeptModel/Interp.lean`, instantiated with an arbitrary
linear ordered field `α`; only the part on C `round()` (nearest neighbour in `interp2d` / `interp3d`) is over `ℚ`.

Statements speak of `Dir n x inc`.  The routines are analysed per direction; reflection (negate knots
and query) carries only the uniqueness of the interpolant (`IsPWL`) and the nearest-knot criterion
(`IsNearestLow`).  What a routine finds for an in-range query is summed up once, direction-free:
`Brackets` for the loop body of `interp`, `Bracketed` for one axis of `interp2d` / `interp3d`. -/
-- the `…_fin` equations and the lemmas about the loops carry field / order instances of the section they do not use
set_option linter.unusedSectionVars false
namespace Adept.Interp
open Ext

variable {α : Type} [Field α] [LinearOrder α] [IsStrictOrderedRing α]

@[simp] theorem blt_fin (a b : α) : blt (fin a) (fin b) = decide (a < b) := rfl
@[simp] theorem ble_fin (a b : α) : ble (fin a) (fin b) = decide (a ≤ b) := rfl
@[simp] theorem bgt_fin (a b : α) : bgt (fin a) (fin b) = decide (b < a) := rfl
@[simp] theorem bge_fin (a b : α) : bge (fin a) (fin b) = decide (b ≤ a) := rfl
@[simp] theorem beq_fin (a b : α) : beq (fin a) (fin b) = decide (a = b) := by
  show (decide (a ≤ b) && decide (b ≤ a)) = _
  rw [← Bool.decide_and, decide_eq_decide]
  exact le_antisymm_iff.symm
@[simp] theorem add_fin (a b : α) : (fin a + fin b : Ext α) = fin (a + b) := rfl
@[simp] theorem sub_fin (a b : α) : (fin a - fin b : Ext α) = fin (a - b) := rfl
@[simp] theorem mul_fin (a b : α) : (fin a * fin b : Ext α) = fin (a * b) := rfl
theorem div_fin (a b : α) (h : b ≠ 0) : (fin a / fin b : Ext α) = fin (a / b) :=
  if_pos (lt_or_gt_of_ne h)

/-- Both bisection loops of `interp` are the same loop on a predicate `p` of the index (`x j < q`, resp.
    `q < x j`): it keeps `p jmin ∧ ¬ p jmax` and ends on an adjacent pair.  No monotonicity is needed. -/
theorem bisect_adjacent (p : Nat → Bool) (f : Nat → Nat → Nat × Nat)
    (hf : ∀ a b, f a b =
      if b > a + 1 then (if p (a + (b - a) / 2) then f (a + (b - a) / 2) b else f a (a + (b - a) / 2)) else (a, b))
    (d : Nat) : ∀ a b, b - a ≤ d → a < b → p a = true → p b = false →
      ∃ j, f a b = (j, j + 1) ∧ a ≤ j ∧ j + 1 ≤ b ∧ p j = true ∧ p (j + 1) = false := by
  induction d with
  | zero => intro a b h1 h2; omega
  | succ d ih =>
    intro a b hd hab ha hb
    rw [hf]
    by_cases h : b > a + 1
    · rw [if_pos h]
      have hm : a < a + (b - a) / 2 ∧ a + (b - a) / 2 < b := by omega
      generalize a + (b - a) / 2 = m at hm ⊢
      by_cases hp : p m = true
      · rw [if_pos hp]
        obtain ⟨j, e, h1, h2, h3⟩ := ih m b (by omega) hm.2 hp hb
        exact ⟨j, e, by omega, h2, h3⟩
      · rw [if_neg hp]
        obtain ⟨j, e, h1, h2, h3⟩ := ih a m (by omega) hm.1 ha ((Bool.not_eq_true _).mp hp)
        exact ⟨j, e, h1, by omega, h3⟩
    · obtain rfl : b = a + 1 := by omega
      exact ⟨a, if_neg h, le_refl _, le_refl _, ha, hb⟩

theorem bisectInc_spec (x : Nat → α) (r : α) (jmin jmax : Nat)
    (hlt : jmin < jmax) (hlo : x jmin < r) (hhi : r ≤ x jmax) :
    ∃ j, bisectInc x (fin r) jmin jmax = (j, j + 1) ∧ jmin ≤ j ∧ j + 1 ≤ jmax ∧ x j < r ∧ r ≤ x (j + 1) := by
  have := bisect_adjacent (fun j => bgt (fin r) (fin (x j))) (bisectInc x (fin r))
    (fun a b => by rw [bisectInc]) _ jmin jmax (le_refl _) hlt (by simpa using hlo) (by simpa using hhi)
  simpa using this

theorem bisectDec_spec (x : Nat → α) (r : α) (jmin jmax : Nat)
    (hlt : jmin < jmax) (hlo : r < x jmin) (hhi : x jmax ≤ r) :
    ∃ j, bisectDec x (fin r) jmin jmax = (j, j + 1) ∧ jmin ≤ j ∧ j + 1 ≤ jmax ∧ r < x j ∧ x (j + 1) ≤ r := by
  have := bisect_adjacent (fun j => blt (fin r) (fin (x j))) (bisectDec x (fin r))
    (fun a b => by rw [bisectDec]) _ jmin jmax (le_refl _) hlt (by simpa using hlo) (by simpa using hhi)
  simpa using this


def IncOn (n : Nat) (x : Nat → α) : Prop := ∀ i j, i < j → j < n → x i < x j
def DecOn (n : Nat) (x : Nat → α) : Prop := ∀ i j, i < j → j < n → x j < x i

/-- direction of a knot vector as the code sees it (`inc` = outcome of `x(0) < x(1)`) -/
def Dir (n : Nat) (x : Nat → α) (inc : Bool) : Prop := if inc then IncOn n x else DecOn n x

theorem IncOn.le {n : Nat} {x : Nat → α} (h : IncOn n x) {i j : Nat} (hij : i ≤ j) (hj : j < n) : x i ≤ x j := by
  rcases Nat.lt_or_eq_of_le hij with h' | rfl
  · exact le_of_lt (h i j h' hj)
  · exact le_refl _

theorem IncOn.le_of_le {n : Nat} {x : Nat → α} (h : IncOn n x) {i j : Nat} (hi : i < n) (hx : x i ≤ x j) : i ≤ j := by
  by_contra hc
  exact absurd hx (not_le.mpr (h j i (Nat.lt_of_not_le hc) hi))

/-- decreasing knots are increasing knots seen from the other side: negate the knots and the query -/
theorem Dir.neg {n : Nat} {x : Nat → α} (h : Dir n x false) : IncOn n (fun j => -x j) :=
  fun i j hij hj => neg_lt_neg (h i j hij hj)

theorem DecOn.le {n : Nat} {x : Nat → α} (h : DecOn n x) {i j : Nat} (hij : i ≤ j) (hj : j < n) : x j ≤ x i :=
  neg_le_neg_iff.mp (IncOn.le (Dir.neg h) hij hj)

theorem Dir.ne {n : Nat} {x : Nat → α} {inc : Bool} (hx : Dir n x inc) {j : Nat} (hj : j + 1 < n) :
    x (j + 1) ≠ x j := by
  cases inc
  · exact ne_of_lt (hx j (j + 1) (by omega) hj)
  · exact ne_of_gt (hx j (j + 1) (by omega) hj)

theorem Dir.injective {n : Nat} {x : Nat → α} {inc : Bool} (hx : Dir n x inc) {i j : Nat} (hi : i < n) (hj : j < n)
    (h : x i = x j) : i = j := by
  cases inc
  · exact le_antisymm (hx.neg.le_of_le hi (neg_le_neg h.ge)) (hx.neg.le_of_le hj (neg_le_neg h.le))
  · exact le_antisymm (IncOn.le_of_le hx hi h.le) (IncOn.le_of_le hx hj h.ge)

def Knots (n : Nat) (x : Nat → α) : Prop := IncOn n x ∨ DecOn n x

theorem Knots.dir {n : Nat} {x : Nat → α} (h : Knots n x) (hn : 2 ≤ n) : Dir n x (decide (x 0 < x 1)) := by
  rcases h with h | h
  · have : x 0 < x 1 := h 0 1 (by omega) (by omega)
    simpa [Dir, this] using h
  · have : ¬ x 0 < x 1 := not_lt.mpr (le_of_lt (h 0 1 (by omega) (by omega)))
    simpa [Dir, this] using h

/-- the direction test of `interp_get_indices_weights`, `x(1) > x(0)`, is the same test -/
theorem decide_gt_eq (x : Nat → α) : decide (x 1 > x 0) = decide (x 0 < x 1) := rfl

theorem Dir.first_last {n : Nat} {x : Nat → α} {inc : Bool} (hx : Dir n x inc) (hn : 2 ≤ n) :
    if inc then x 0 < x (n - 1) else x (n - 1) < x 0 := by
  cases inc
  · exact hx 0 (n - 1) (by omega) (by omega)
  · exact hx 0 (n - 1) (by omega) (by omega)

def Inside (n : Nat) (x : Nat → α) (r : α) : Prop :=
  (x 0 ≤ r ∧ r ≤ x (n - 1)) ∨ (x (n - 1) ≤ r ∧ r ≤ x 0)

/-- `Inside` for knots of known direction: the disjunct with the end knots in the wrong order is empty -/
theorem Dir.inRange {n : Nat} {x : Nat → α} {inc : Bool} (hx : Dir n x inc) (hn : 2 ≤ n) {r : α}
    (hr : Inside n x r) : if inc then x 0 ≤ r ∧ r ≤ x (n - 1) else x (n - 1) ≤ r ∧ r ≤ x 0 := by
  have h0 := hx.first_last hn
  cases inc
  · exact hr.elim (fun c => absurd (c.1.trans c.2) (not_le.mpr h0)) id
  · exact hr.elim id fun c => absurd (c.1.trans c.2) (not_le.mpr h0)

theorem Knots.inside_knot {n : Nat} {x : Nat → α} (h : Knots n x) {k : Nat} (hk : k < n) : Inside n x (x k) := by
  rcases h with h | h
  · exact Or.inl ⟨h.le (Nat.zero_le _) hk, h.le (by omega) (by omega)⟩
  · exact Or.inr ⟨h.le (by omega) (by omega), h.le (Nat.zero_le _) hk⟩

def lineThrough (xa xb ya yb q : α) : α := ya + (q - xa) * (yb - ya) / (xb - xa)

theorem lineThrough_left (xa xb ya yb : α) : lineThrough xa xb ya yb xa = ya := by simp [lineThrough]
theorem lineThrough_right {xa xb : α} (ya yb : α) (h : xb ≠ xa) : lineThrough xa xb ya yb xb = yb := by
  rw [lineThrough, mul_div_cancel_left₀ _ (sub_ne_zero.mpr h), add_sub_cancel]
theorem lineThrough_neg (xa xb ya yb q : α) : lineThrough (-xa) (-xb) ya yb (-q) = lineThrough xa xb ya yb q := by
  rw [lineThrough, lineThrough, neg_sub_neg, neg_sub_neg, ← neg_sub q xa, ← neg_sub xb xa, neg_mul, neg_div_neg_eq]

theorem lineThrough_eq_weights {xa xb : α} (h : xb ≠ xa) (ya yb r : α) :
    lineThrough xa xb ya yb r = (xb - r) / (xb - xa) * ya + (r - xa) / (xb - xa) * yb := by
  have hd : xb - xa ≠ 0 := sub_ne_zero.mpr h
  unfold lineThrough
  field_simp
  ring

/-- `v` is the value at `r` of the piecewise-linear interpolant of the points `(x j, y j)`, `j < n`:
    `r` lies in the closed segment between two consecutive knots (in either order) and `v` is on the
    straight line through the two data points. -/
def IsPWL (n : Nat) (x y : Nat → α) (r v : α) : Prop :=
  ∃ j, j + 1 < n ∧ ((x j ≤ r ∧ r ≤ x (j + 1)) ∨ (x (j + 1) ≤ r ∧ r ≤ x j)) ∧
    v = lineThrough (x j) (x (j + 1)) (y j) (y (j + 1)) r

theorem IsPWL.neg {n : Nat} {x y : Nat → α} {r v : α} (h : IsPWL n x y r v) : IsPWL n (fun j => -x j) y (-r) v := by
  obtain ⟨j, hj, hb, rfl⟩ := h
  refine ⟨j, hj, ?_, (lineThrough_neg _ _ _ _ _).symm⟩
  rcases hb with ⟨a, b⟩ | ⟨a, b⟩
  · exact Or.inr ⟨neg_le_neg b, neg_le_neg a⟩
  · exact Or.inl ⟨neg_le_neg b, neg_le_neg a⟩

/-- the interpolant is single valued (increasing knots): two segments that both contain `r` are equal or
    adjacent, and then `r` is their common knot -/
theorem IsPWL.unique_inc {n : Nat} {x y : Nat → α} (hx : IncOn n x) {r v v' : α}
    (h : IsPWL n x y r v) (h' : IsPWL n x y r v') : v = v' := by
  obtain ⟨j, hj, hb, rfl⟩ := h
  obtain ⟨k, hk, hb', rfl⟩ := h'
  wlog hjk : j ≤ k generalizing j k
  · exact (this k hk hb' j hj hb (by omega)).symm
  have hlt : ∀ i, i + 1 < n → x i < x (i + 1) := fun i hi => hx i (i + 1) (by omega) hi
  have a2 : r ≤ x (j + 1) := hb.elim And.right fun c => absurd (c.1.trans c.2) (not_le.mpr (hlt j hj))
  have b1 : x k ≤ r := hb'.elim And.left fun c => absurd (c.1.trans c.2) (not_le.mpr (hlt k hk))
  rcases Nat.eq_or_lt_of_le hjk with rfl | hjk
  · rfl
  · obtain rfl : k = j + 1 := le_antisymm (hx.le_of_le (by omega) (b1.trans a2)) hjk
    rw [le_antisymm a2 b1, lineThrough_right _ _ (hlt j hj).ne', lineThrough_left]

theorem IsPWL.unique {n : Nat} {x y : Nat → α} {inc : Bool} (hx : Dir n x inc) {r v v' : α}
    (h : IsPWL n x y r v) (h' : IsPWL n x y r v') : v = v' := by
  cases inc
  · exact h.neg.unique_inc hx.neg h'.neg
  · exact h.unique_inc hx h'

theorem isPWL_knot {n : Nat} (x y : Nat → α) (hn : 2 ≤ n) {k : Nat} (hk : k < n)
    (hne : ∀ j, j + 1 < n → x (j + 1) ≠ x j) : IsPWL n x y (x k) (y k) := by
  by_cases h : k + 1 < n
  · refine ⟨k, h, ?_, (lineThrough_left _ _ _ _).symm⟩
    rcases le_total (x k) (x (k + 1)) with h' | h'
    · exact Or.inl ⟨le_refl _, h'⟩
    · exact Or.inr ⟨h', le_refl _⟩
  · obtain ⟨j, rfl⟩ : ∃ j, k = j + 1 := ⟨k - 1, by omega⟩
    refine ⟨j, hk, ?_, (lineThrough_right _ _ (hne j hk)).symm⟩
    rcases le_total (x j) (x (j + 1)) with h' | h'
    · exact Or.inl ⟨h', le_refl _⟩
    · exact Or.inr ⟨le_refl _, h'⟩

theorem IsPWL.knot {n : Nat} {x y : Nat → α} {inc : Bool} (hx : Dir n x inc) {k : Nat} (hk : k < n) {v : α}
    (h : IsPWL n x y (x k) v) : v = y k := by
  obtain ⟨j, hj, _⟩ := id h
  exact h.unique hx (isPWL_knot x y (by omega) hk fun _ => hx.ne)


theorem endBranch_fin (x : Nat → α) (policy : Nat) (r : α) (jend lo hi : Nat) :
    endBranch x policy (fin r) jend lo hi =
      if policy = 1 then .pair lo hi else if policy = 2 ∨ r = x jend then .copy jend else .extrap := by
  simp [endBranch, ADEPT_EXTRAPOLATE_LINEAR, ADEPT_EXTRAPOLATE_CLAMP]

theorem select1_inc_fin (n : Nat) (x : Nat → α) (policy : Nat) (r : α) :
    select1 n x true policy (fin r) =
      if r ≤ x 0 then endBranch x policy (fin r) 0 0 1
      else if x (n - 1) ≤ r then endBranch x policy (fin r) (n - 1) (n - 1 - 1) (n - 1)
      else .pair (bisectInc x (fin r) 0 (n - 1)).1 (bisectInc x (fin r) 0 (n - 1)).2 := by
  simp [select1]

theorem select1_dec_fin (n : Nat) (x : Nat → α) (policy : Nat) (r : α) :
    select1 n x false policy (fin r) =
      if x 0 ≤ r then endBranch x policy (fin r) 0 0 1
      else if r ≤ x (n - 1) then endBranch x policy (fin r) (n - 1) (n - 1 - 1) (n - 1)
      else .pair (bisectDec x (fin r) 0 (n - 1)).1 (bisectDec x (fin r) 0 (n - 1)).2 := by
  simp [select1]

/-- What the loop body delivers for a query in the knot range: the index of a knot equal to the query, or two
    neighbouring knots with the query between them -/
def Brackets (n : Nat) (x : Nat → α) (r : α) (s : Sel1) : Prop :=
  (∃ k, k < n ∧ r = x k ∧ s = .copy k) ∨
  (∃ a, a + 1 < n ∧ ((x a ≤ r ∧ r ≤ x (a + 1)) ∨ (x (a + 1) ≤ r ∧ r ≤ x a)) ∧ s = .pair a (a + 1))

/-- an end branch taken because the query is the end knot `k` itself, `k` being one end of the end segment -/
theorem Brackets.endKnot {n : Nat} (x : Nat → α) (policy : Nat) {k lo : Nat} (hlo : lo + 1 < n)
    (hk : k = lo ∨ k = lo + 1) : Brackets n x (x k) (endBranch x policy (fin (x k)) k lo (lo + 1)) := by
  rw [endBranch_fin, if_pos (Or.inr rfl)]
  by_cases p1 : policy = 1
  · rw [if_pos p1]
    refine Or.inr ⟨lo, hlo, ?_, rfl⟩
    rcases hk with rfl | rfl
    · exact (le_total (x k) (x (k + 1))).imp (⟨le_refl _, ·⟩) (⟨·, le_refl _⟩)
    · exact (le_total (x lo) (x (lo + 1))).imp (⟨·, le_refl _⟩) (⟨le_refl _, ·⟩)
  · rw [if_neg p1]
    exact Or.inl ⟨k, by omega, rfl, rfl⟩

theorem select1_inrange {n : Nat} {x : Nat → α} {inc : Bool} (hx : Dir n x inc) (hn : 2 ≤ n) (policy : Nat)
    {r : α} (hr : Inside n x r) : Brackets n x r (select1 n x inc policy (fin r)) := by
  have hr := hx.inRange hn hr
  obtain ⟨m, rfl⟩ : ∃ m, n = m + 2 := ⟨n - 2, by omega⟩
  cases inc
  · rw [select1_dec_fin]
    by_cases c0 : x 0 ≤ r
    · obtain rfl := le_antisymm hr.2 c0
      rw [if_pos c0]
      exact .endKnot x policy (by omega) (Or.inl rfl)
    by_cases c1 : r ≤ x (m + 2 - 1)
    · obtain rfl := le_antisymm c1 hr.1
      rw [if_neg c0, if_pos c1]
      exact .endKnot (lo := m) x policy (by omega) (Or.inr rfl)
    rw [if_neg c0, if_neg c1]
    obtain ⟨a, e, _, ha, h1, h2⟩ := bisectDec_spec x r 0 (m + 2 - 1) (by omega) (not_le.mp c0) (not_le.mp c1).le
    rw [e]
    exact Or.inr ⟨a, by omega, Or.inr ⟨h2, h1.le⟩, rfl⟩
  · rw [select1_inc_fin]
    by_cases c0 : r ≤ x 0
    · obtain rfl := le_antisymm c0 hr.1
      rw [if_pos c0]
      exact .endKnot x policy (by omega) (Or.inl rfl)
    by_cases c1 : x (m + 2 - 1) ≤ r
    · obtain rfl := le_antisymm hr.2 c1
      rw [if_neg c0, if_pos c1]
      exact .endKnot (lo := m) x policy (by omega) (Or.inr rfl)
    rw [if_neg c0, if_neg c1]
    obtain ⟨a, e, _, ha, h1, h2⟩ := bisectInc_spec x r 0 (m + 2 - 1) (by omega) (not_le.mp c0) (not_le.mp c1).le
    rw [e]
    exact Or.inr ⟨a, by omega, Or.inl ⟨h1.le, h2⟩, rfl⟩


/-- the interpolation formula of the code is the straight line through the two data points
    (both in the `a / d` and in the `a * (1 / d)` form) -/
theorem linFormula_fin (recip : Bool) (x y : Nat → α) (r : α) (a b : Nat) (h : x b ≠ x a) :
    linFormula recip x y (fin r) a b = fin (lineThrough (x a) (x b) (y a) (y b) r) := by
  have hd : x b - x a ≠ 0 := sub_ne_zero.mpr h
  have key : ((r - x a) * y b + (x b - r) * y a) / (x b - x a) = lineThrough (x a) (x b) (y a) (y b) r := by
    rw [lineThrough_eq_weights h, add_div, mul_div_right_comm, mul_div_right_comm, add_comm]
  unfold linFormula
  cases recip
  · simp only [sub_fin, mul_fin, add_fin, div_fin _ _ hd, Bool.false_eq_true, if_false, key]
  · simp only [sub_fin, mul_fin, add_fin, div_fin _ _ hd, if_true, mul_one_div, key]

theorem eval1_pair (recip : Bool) (x y : Nat → α) (inc : Bool) (scheme : Nat) (ev q : Ext α) (a b : Nat) :
    eval1 recip x y inc scheme ev q (.pair a b) =
      if scheme = ADEPT_INTERPOLATE_LINEAR then linFormula recip x y q a b
      else fin (y (nearestPick x inc q a b)) := rfl

theorem eval1_pair_linear (recip : Bool) (x y : Nat → α) (inc : Bool) (ev : Ext α) (r : α) (a b : Nat)
    (h : x b ≠ x a) :
    eval1 recip x y inc ADEPT_INTERPOLATE_LINEAR ev (fin r) (.pair a b)
      = fin (lineThrough (x a) (x b) (y a) (y b) r) := by
  rw [eval1_pair, if_pos rfl, linFormula_fin recip x y r a b h]

/-- `q` lies strictly beyond the end of the range where knot `0` is (below all knots for
    increasing knots, above all knots for decreasing ones); infinite queries included -/
def OffFirst (inc : Bool) (x0 : α) : Ext α → Prop
  | fin r => if inc then r < x0 else x0 < r
  | pinf => inc = false
  | ninf => inc = true
  | nan => False

/-- `q` lies strictly beyond the end of the range where knot `n-1` is -/
def OffLast (inc : Bool) (xl : α) : Ext α → Prop
  | fin r => if inc then xl < r else r < xl
  | pinf => inc = true
  | ninf => inc = false
  | nan => False

/-- what the three policies do beyond an end: end segment `(lo, hi)`, end knot `jend` -/
def offSel (policy jend lo hi : Nat) : Sel1 :=
  if policy = 1 then .pair lo hi else if policy = 2 then .copy jend else .extrap

theorem endBranch_off (x : Nat → α) (policy : Nat) {q : Ext α} (jend lo hi : Nat) (h : beq q (fin (x jend)) = false) :
    endBranch x policy q jend lo hi = offSel policy jend lo hi := by
  simp [endBranch, offSel, h, ADEPT_EXTRAPOLATE_LINEAR, ADEPT_EXTRAPOLATE_CLAMP]

theorem select1_offFirst (n : Nat) (x : Nat → α) (inc : Bool) (policy : Nat) (q : Ext α)
    (h : OffFirst inc (x 0) q) : select1 n x inc policy q = offSel policy 0 0 1 := by
  cases q with
  | fin r =>
    cases inc
    · rw [select1_dec_fin, if_pos (le_of_lt h), endBranch_off _ _ _ _ _ (by simpa using ne_of_gt h)]
    · rw [select1_inc_fin, if_pos (le_of_lt h), endBranch_off _ _ _ _ _ (by simpa using ne_of_lt h)]
  | pinf => cases h; exact endBranch_off x policy 0 0 1 rfl
  | ninf => cases h; exact endBranch_off x policy 0 0 1 rfl
  | nan => exact h.elim

theorem select1_offLast {n : Nat} {x : Nat → α} {inc : Bool} (hx : Dir n x inc) (hn : 2 ≤ n) (policy : Nat)
    (q : Ext α) (h : OffLast inc (x (n - 1)) q) :
    select1 n x inc policy q = offSel policy (n - 1) (n - 2) (n - 1) := by
  have h0 := hx.first_last hn
  cases q with
  | fin r =>
    cases inc
    · rw [select1_dec_fin, if_neg (not_le.mpr (lt_trans h h0)), if_pos (le_of_lt h)]
      exact endBranch_off _ _ _ _ _ (by simpa using ne_of_lt h)
    · rw [select1_inc_fin, if_neg (not_le.mpr (lt_trans h0 h)), if_pos (le_of_lt h)]
      exact endBranch_off _ _ _ _ _ (by simpa using ne_of_gt h)
  | pinf => cases h; exact endBranch_off x policy (n - 1) (n - 2) (n - 1) rfl
  | ninf => cases h; exact endBranch_off x policy (n - 1) (n - 2) (n - 1) rfl
  | nan => exact h.elim

theorem inside_or_off (inc : Bool) (n : Nat) (x : Nat → α) (r : α) :
    Inside n x r ∨ OffFirst inc (x 0) (fin r) ∨ OffLast inc (x (n - 1)) (fin r) := by
  cases inc
  · rcases lt_or_ge (x 0) r with h | h
    · exact Or.inr (Or.inl h)
    · exact (lt_or_ge r (x (n - 1))).elim (fun h' => Or.inr (Or.inr h')) fun h' => Or.inl (Or.inr ⟨h', h⟩)
  · rcases lt_or_ge r (x 0) with h | h
    · exact Or.inr (Or.inl h)
    · exact (lt_or_ge (x (n - 1)) r).elim (fun h' => Or.inr (Or.inr h')) fun h' => Or.inl (Or.inl ⟨h, h'⟩)

theorem select1_pair_ne {n : Nat} {x : Nat → α} {inc : Bool} (hx : Dir n x inc) (hn : 2 ≤ n) (policy : Nat)
    (r : α) {a b : Nat} (h : select1 n x inc policy (fin r) = .pair a b) : x b ≠ x a := by
  have hoff : ∀ jend lo, offSel policy jend lo (lo + 1) = .pair a b → lo + 1 < n → x b ≠ x a := by
    intro jend lo he hlo
    unfold offSel at he
    split_ifs at he
    cases he
    exact hx.ne hlo
  rcases inside_or_off inc n x r with hr | hr | hr
  · rcases select1_inrange hx hn policy hr with ⟨k, _, _, hs⟩ | ⟨a', ha, _, hs⟩
    · cases hs.symm.trans h
    · cases hs.symm.trans h
      exact hx.ne ha
  · exact hoff 0 0 ((select1_offFirst n x inc policy _ hr).symm.trans h) (by omega)
  · obtain ⟨m, rfl⟩ : ∃ m, n = m + 2 := ⟨n - 2, by omega⟩
    exact hoff (m + 1) m ((select1_offLast hx hn policy _ hr).symm.trans h) (by omega)


/-- one output element of `interp` as the model computes it (`n ≥ 2` knots): the loop body up to the
    formula, then the formula; `y` is the data along the interpolated dimension for one trailing index -/
def interp1Elem (recip : Bool) (n : Nat) (x y : Nat → α) (scheme policy : Nat) (ev q : Ext α) : Ext α :=
  eval1 recip x y (decide (x 0 < x 1)) scheme ev q (select1 n x (decide (x 0 < x 1)) policy q)

/-- the interpolation weights the model reports for that element -/
def interp1Weights (n : Nat) (x : Nat → α) (scheme policy : Nat) (q : Ext α) : List (Nat × Ext α) :=
  weights1 x (decide (x 0 < x 1)) scheme q (select1 n x (decide (x 0 < x 1)) policy q)

/-! ### infinite queries under linear extrapolation: the result is not finite -/

def Ext.isFin : Ext α → Bool
  | fin _ => true
  | _ => false

theorem infTimes_nonfin (p : Bool) (b : α) : (infTimes p b).isFin = false := by
  unfold infTimes
  split_ifs <;> rfl

theorem add_nonfin {a b : Ext α} (ha : a.isFin = false) (hb : b.isFin = false) : (a + b).isFin = false := by
  cases a <;> cases b <;> first | rfl | exact absurd ha (by simp [Ext.isFin])

theorem mul_fin_nonfin {a : Ext α} (ha : a.isFin = false) (c : α) : (a * fin c).isFin = false := by
  cases a with
  | fin _ => exact absurd ha (by simp [Ext.isFin])
  | pinf => exact infTimes_nonfin true c
  | ninf => exact infTimes_nonfin false c
  | nan => rfl

theorem div_fin_nonfin {a : Ext α} (ha : a.isFin = false) (d : α) : (a / fin d).isFin = false := by
  cases a with
  | fin _ => exact absurd ha (by simp [Ext.isFin])
  | pinf => show (Ext.div pinf (fin d)).isFin = false; simp only [Ext.div]; split_ifs <;> rfl
  | ninf => show (Ext.div ninf (fin d)).isFin = false; simp only [Ext.div]; split_ifs <;> rfl
  | nan => rfl

theorem linFormula_inf_nonfin (recip : Bool) (x y : Nat → α) (a b : Nat) (h : x b ≠ x a) (q : Ext α)
    (hq : q = pinf ∨ q = ninf) : (linFormula recip x y q a b).isFin = false := by
  have hd : x b - x a ≠ 0 := sub_ne_zero.mpr h
  have hnum : ((q - fin (x a)) * fin (y b) + (fin (x b) - q) * fin (y a)).isFin = false := by
    rcases hq with rfl | rfl
    · exact add_nonfin (infTimes_nonfin true _) (infTimes_nonfin false _)
    · exact add_nonfin (infTimes_nonfin false _) (infTimes_nonfin true _)
  unfold linFormula
  cases recip
  · simp only [Bool.false_eq_true, if_false, sub_fin]
    exact div_fin_nonfin hnum _
  · simp only [if_true, sub_fin, div_fin _ _ hd]
    exact mul_fin_nonfin hnum _


/-- knot `k` is a nearest knot to `r`, and among equally near knots it has the lowest index -/
def IsNearestLow (n : Nat) (x : Nat → α) (r : α) (k : Nat) : Prop :=
  k < n ∧ (∀ i, i < n → |r - x k| ≤ |r - x i|) ∧ (∀ i, i < n → |r - x i| = |r - x k| → k ≤ i)

theorem IsNearestLow.of_neg {n : Nat} {x : Nat → α} {r : α} {k : Nat}
    (h : IsNearestLow n (fun j => -x j) (-r) k) : IsNearestLow n x r k := by
  simpa only [IsNearestLow, neg_sub_neg, abs_sub_comm (x _) r] using h

/-- Increasing knots: `k` is nearest, lowest index on ties, as soon as it is strictly nearer than its left
    neighbour and at least as near as its right neighbour; the knots further out are further away. -/
theorem IncOn.nearestLow {n : Nat} {x : Nat → α} (hx : IncOn n x) {k : Nat} (hk : k < n) {r : α}
    (hl : ∀ i, i + 1 = k → x k - r < r - x i) (hr : k + 1 < n → r - x k ≤ x (k + 1) - r) :
    IsNearestLow n x r k := by
  have lo : ∀ i, i < k → |r - x k| < |r - x i| := by
    intro i hi
    obtain ⟨j, rfl⟩ : ∃ j, k = j + 1 := ⟨k - 1, by omega⟩
    have h1 : x i ≤ x j := hx.le (by omega) (by omega)
    have h2 : x i < x (j + 1) := hx _ _ hi hk
    exact lt_of_lt_of_le (abs_sub_lt_iff.mpr ⟨sub_lt_sub_left h2 r, (hl j rfl).trans_le (sub_le_sub_left h1 r)⟩)
      (le_abs_self _)
  have hi : ∀ i, k < i → i < n → |r - x k| ≤ |r - x i| := by
    intro i hki hi
    have h1 : x (k + 1) ≤ x i := hx.le hki hi
    have h2 : x k < x i := hx _ _ hki hi
    rw [abs_sub_comm r (x i)]
    exact le_trans (abs_sub_le_iff.mpr ⟨(hr (by omega)).trans (sub_le_sub_right h1 r), sub_le_sub_right h2.le r⟩)
      (le_abs_self _)
  refine ⟨hk, fun i hin => ?_, fun i _ he => ?_⟩
  · rcases Nat.lt_trichotomy i k with h | rfl | h
    · exact (lo i h).le
    · exact le_refl _
    · exact hi i h hin
  · by_contra hc
    exact absurd he (ne_of_gt (lo i (by omega)))

theorem Dir.nearestLow_dec {n : Nat} {x : Nat → α} (hx : Dir n x false) {k : Nat} (hk : k < n) {r : α}
    (hl : ∀ i, i + 1 = k → r - x k < x i - r) (hr : k + 1 < n → x k - r ≤ r - x (k + 1)) :
    IsNearestLow n x r k := by
  refine .of_neg (hx.neg.nearestLow hk (fun i hi => ?_) fun h => ?_)
  · simpa only [neg_sub_neg] using hl i hi
  · simpa only [neg_sub_neg] using hr h

theorem nearestPick_inc_fin (x : Nat → α) (r : α) (a b : Nat) :
    nearestPick x true (fin r) a b = if x b - r < r - x a then b else a := by
  simp [nearestPick]

theorem nearestPick_dec_fin (x : Nat → α) (r : α) (a b : Nat) :
    nearestPick x false (fin r) a b = if r - x a < x b - r then b else a := by
  simp [nearestPick]

theorem nearest_of_bracket_inc {n : Nat} {x : Nat → α} (hx : IncOn n x) {a : Nat} (ha : a + 1 < n) {r : α}
    (h1 : x a ≤ r) (h2 : r ≤ x (a + 1)) :
    IsNearestLow n x r (if x (a + 1) - r < r - x a then a + 1 else a) := by
  split_ifs with c
  · refine hx.nearestLow ha (fun i hi => ?_) fun h => ?_
    · obtain rfl : i = a := by omega
      exact c
    · exact (sub_nonpos.mpr h2).trans (sub_nonneg.mpr (h2.trans (hx _ _ (by omega) h).le))
  · refine hx.nearestLow (by omega) (fun i hi => ?_) fun _ => not_lt.mp c
    exact (sub_nonpos.mpr h1).trans_lt (sub_pos.mpr ((hx i a (by omega) (by omega)).trans_le h1))

theorem nearestPick_nearest {n : Nat} {x : Nat → α} {inc : Bool} (hx : Dir n x inc) {a : Nat} (ha : a + 1 < n) {r : α}
    (hb : (x a ≤ r ∧ r ≤ x (a + 1)) ∨ (x (a + 1) ≤ r ∧ r ≤ x a)) :
    IsNearestLow n x r (nearestPick x inc (fin r) a (a + 1)) := by
  cases inc
  · have hb' : x (a + 1) ≤ r ∧ r ≤ x a :=
      hb.elim (fun c => absurd (c.1.trans c.2) (not_le.mpr (hx a (a + 1) (by omega) ha))) id
    -- the reflected comparison `r - x (a+1) < x a - r` is the one of the code, `r - x a < x (a+1) - r`
    have e : r - x (a + 1) < x a - r ↔ r - x a < x (a + 1) - r := by
      rw [sub_lt_sub_iff, sub_lt_sub_iff, add_comm (x a)]
    rw [nearestPick_dec_fin, ← if_congr e rfl rfl]
    simpa only [neg_sub_neg] using (nearest_of_bracket_inc hx.neg ha (neg_le_neg hb'.2) (neg_le_neg hb'.1)).of_neg
  · have hb' : x a ≤ r ∧ r ≤ x (a + 1) :=
      hb.elim id fun c => absurd (c.1.trans c.2) (not_le.mpr (hx a (a + 1) (by omega) ha))
    rw [nearestPick_inc_fin]
    exact nearest_of_bracket_inc hx ha hb'.1 hb'.2

theorem nearest_knot {n : Nat} {x : Nat → α} {inc : Bool} (hx : Dir n x inc) {k : Nat} (hk : k < n) :
    IsNearestLow n x (x k) k := by
  refine ⟨hk, fun i _ => ?_, fun i hi he => ?_⟩
  · rw [sub_self, abs_zero]
    exact abs_nonneg _
  · rw [sub_self, abs_zero, abs_eq_zero, sub_eq_zero] at he
    exact (hx.injective hk hi he).le

/-- the query and knot 1 are on opposite sides of knot 0 -/
theorem nearest_first {n : Nat} {x : Nat → α} {inc : Bool} (hx : Dir n x inc) (hn : 2 ≤ n) {r : α}
    (h : OffFirst inc (x 0) (fin r)) : IsNearestLow n x r 0 := by
  cases inc
  · refine hx.nearestLow_dec (by omega) (fun i hi => by omega) fun _ => ?_
    have h1 : x 1 < x 0 := hx 0 1 (by omega) (by omega)
    have h0 : x 0 < r := h
    exact ((sub_neg.mpr h0).trans (sub_pos.mpr (h1.trans h0))).le
  · refine IncOn.nearestLow hx (by omega) (fun i hi => by omega) fun _ => ?_
    have h1 : x 0 < x 1 := hx 0 1 (by omega) (by omega)
    have h0 : r < x 0 := h
    exact ((sub_neg.mpr h0).trans (sub_pos.mpr (h0.trans h1))).le

theorem nearest_last {n : Nat} {x : Nat → α} {inc : Bool} (hx : Dir n x inc) (hn : 2 ≤ n) {r : α}
    (h : OffLast inc (x (n - 1)) (fin r)) : IsNearestLow n x r (n - 1) := by
  obtain ⟨m, rfl⟩ : ∃ m, n = m + 2 := ⟨n - 2, by omega⟩
  cases inc
  · refine hx.nearestLow_dec (by omega) (fun i hi => ?_) fun hh => by omega
    obtain rfl : m = i := by omega
    have h1 : x (m + 1) < x m := hx m (m + 1) (by omega) (by omega)
    have h0 : r < x (m + 1) := h
    exact (sub_neg.mpr h0).trans (sub_pos.mpr (h0.trans h1))
  · refine IncOn.nearestLow hx (by omega) (fun i hi => ?_) fun hh => by omega
    obtain rfl : m = i := by omega
    have h1 : x m < x (m + 1) := hx m (m + 1) (by omega) (by omega)
    have h0 : x (m + 1) < r := h
    exact (sub_neg.mpr h0).trans (sub_pos.mpr (h1.trans h0))

/-- loop invariant of the upward scan: `jj = 0 ∨ x jj < q` is kept; on exit `q ≤ x (jj+1)` -/
theorem scanUp_spec (n : Nat) (x : Nat → α) (r : α) (jj : Nat) (hjj : jj + 2 ≤ n)
    (hinv : jj = 0 ∨ x jj < r) (hhi : r ≤ x (n - 1)) :
    jj ≤ scanUp n x (fin r) jj ∧ scanUp n x (fin r) jj + 2 ≤ n ∧
    (scanUp n x (fin r) jj = 0 ∨ x (scanUp n x (fin r) jj) < r) ∧ r ≤ x (scanUp n x (fin r) jj + 1) := by
  fun_induction scanUp n x (fin r) jj with
  | case1 jj hc ih =>
    have hlt : x (jj + 1) < r := by simpa using hc.2
    have := ih (by omega) (Or.inr hlt)
    exact ⟨by omega, this.2.1, this.2.2.1, this.2.2.2⟩
  | case2 jj hc =>
    refine ⟨le_refl _, hjj, hinv, ?_⟩
    by_cases h2 : jj + 2 < n
    · have : ¬ x (jj + 1) < r := by
        intro h; exact hc ⟨h2, by simpa using h⟩
      exact not_lt.mp this
    · have : jj + 1 = n - 1 := by omega
      rw [this]; exact hhi

/-- loop invariant of the downward scan: `x (jj+1) ≤ q` is kept; on exit `q ≤ x jj` -/
theorem scanDown_spec (x : Nat → α) (r : α) (h0 : r ≤ x 0) (jj : Nat) (hinv : x (jj + 1) ≤ r) :
    scanDown x (fin r) jj ≤ jj ∧ x (scanDown x (fin r) jj + 1) ≤ r ∧ r ≤ x (scanDown x (fin r) jj) := by
  induction jj with
  | zero => simpa [scanDown] using ⟨hinv, h0⟩
  | succ j ih =>
    unfold scanDown
    by_cases hc : x (j + 1) < r
    · have : blt (fin (x (j + 1))) (fin r) = true := by simpa using hc
      rw [if_pos this]
      have := ih (le_of_lt hc)
      exact ⟨by omega, this.2.1, this.2.2⟩
    · have : ¬ (blt (fin (x (j + 1))) (fin r) = true) := by simpa using hc
      rw [if_neg this]
      exact ⟨le_refl _, hinv, not_lt.mp hc⟩

/-- what `interp_get_indices_weights` delivers for an in-range query: a valid entry whose index brackets
    the query and whose weight is `(x(j+1) - q) / (x(j+1) - x(j))` -/
structure Bracketed (n : Nat) (x : Nat → α) (r : α) (w : IW α) : Prop where
  valid : w.valid = true
  lt : w.ind0 + 1 < n
  seg : (x w.ind0 ≤ r ∧ r ≤ x (w.ind0 + 1)) ∨ (x (w.ind0 + 1) ≤ r ∧ r ≤ x w.ind0)
  ne : x (w.ind0 + 1) ≠ x w.ind0
  weight : w.weight0 = fin ((x (w.ind0 + 1) - r) / (x (w.ind0 + 1) - x w.ind0))

theorem indexWeight_inc_fin (n : Nat) (x : Nat → α) (policy : Nat) (r : α) :
    indexWeight n x true policy (fin r) =
      if x 0 ≤ r ∧ r ≤ x (n - 1) then
        { ind0 := scanUp n x (fin r) 0,
          weight0 := (fin (x (scanUp n x (fin r) 0 + 1)) - fin r) /
            (fin (x (scanUp n x (fin r) 0 + 1)) - fin (x (scanUp n x (fin r) 0))) }
      else if r < x 0 then offEnd x policy (fin r) 0 1 else offEnd x policy (fin r) (n - 2) 0 := by
  simp [indexWeight]

theorem indexWeight_dec_fin (n : Nat) (x : Nat → α) (policy : Nat) (r : α) :
    indexWeight n x false policy (fin r) =
      if r ≤ x 0 ∧ x (n - 1) ≤ r then
        { ind0 := scanDown x (fin r) (n - 2),
          weight0 := (fin (x (scanDown x (fin r) (n - 2) + 1)) - fin r) /
            (fin (x (scanDown x (fin r) (n - 2) + 1)) - fin (x (scanDown x (fin r) (n - 2)))) }
      else if x 0 < r then offEnd x policy (fin r) 0 1 else offEnd x policy (fin r) (n - 2) 0 := by
  simp [indexWeight]

theorem indexWeight_inrange {n : Nat} {x : Nat → α} {inc : Bool} (hx : Dir n x inc) (hn : 2 ≤ n)
    (policy : Nat) {r : α} (hr : Inside n x r) : Bracketed n x r (indexWeight n x inc policy (fin r)) := by
  have hr := hx.inRange hn hr
  cases inc
  · rw [indexWeight_dec_fin, if_pos ⟨hr.2, hr.1⟩]
    have e : n - 2 + 1 = n - 1 := by omega
    obtain ⟨s1, s2, s3⟩ := scanDown_spec x r hr.2 (n - 2) (by rw [e]; exact hr.1)
    generalize scanDown x (fin r) (n - 2) = j at *
    have hne := hx.ne (by omega : j + 1 < n)
    exact ⟨rfl, by simp only; omega, Or.inr ⟨s2, s3⟩, hne, by simp [div_fin _ _ (sub_ne_zero.mpr hne)]⟩
  · rw [indexWeight_inc_fin, if_pos ⟨hr.1, hr.2⟩]
    obtain ⟨_, s2, s3, s4⟩ := scanUp_spec n x r 0 (by omega) (Or.inl rfl) hr.2
    generalize scanUp n x (fin r) 0 = j at *
    have hne := hx.ne (by omega : j + 1 < n)
    have hlo : x j ≤ r := by
      rcases s3 with rfl | s3
      · exact hr.1
      · exact le_of_lt s3
    exact ⟨rfl, by simp only; omega, Or.inl ⟨hlo, s4⟩, hne, by simp [div_fin _ _ (sub_ne_zero.mpr hne)]⟩

theorem weight_mem_unit {xa xb r : α} (h : (xa ≤ r ∧ r ≤ xb ∧ xa < xb) ∨ (xb ≤ r ∧ r ≤ xa ∧ xb < xa)) :
    0 ≤ (xb - r) / (xb - xa) ∧ (xb - r) / (xb - xa) ≤ 1 := by
  rcases h with ⟨h1, h2, h3⟩ | ⟨h1, h2, h3⟩
  · exact ⟨div_nonneg (sub_nonneg.mpr h2) (sub_pos.mpr h3).le,
      (div_le_one (sub_pos.mpr h3)).mpr (sub_le_sub_left h1 xb)⟩
  · exact ⟨div_nonneg_of_nonpos (sub_nonpos.mpr h1) (sub_neg.mpr h3).le,
      (div_le_one_of_neg (sub_neg.mpr h3)).mpr (sub_le_sub_left h2 xb)⟩

theorem Bracketed.weight_unit {n : Nat} {x : Nat → α} {r : α} {w : IW α} (h : Bracketed n x r w) :
    ∃ a : α, w.weight0 = fin a ∧ 0 ≤ a ∧ a ≤ 1 ∧ fin (1 : α) - w.weight0 = fin (1 - a) ∧ a + (1 - a) = 1 := by
  have hu := weight_mem_unit (r := r) (h.seg.imp (fun c => ⟨c.1, c.2, lt_of_le_of_ne (c.1.trans c.2) h.ne.symm⟩)
    fun c => ⟨c.1, c.2, lt_of_le_of_ne (c.1.trans c.2) h.ne⟩)
  exact ⟨_, h.weight, hu.1, hu.2, by rw [h.weight]; rfl, add_sub_cancel _ _⟩

theorem weight_line {xa xb : α} (h : xb ≠ xa) (u v r : α) :
    (xb - r) / (xb - xa) * u + (1 - (xb - r) / (xb - xa)) * v = lineThrough xa xb u v r := by
  rw [lineThrough_eq_weights h, one_sub_div (sub_ne_zero.mpr h), sub_sub_sub_cancel_left]

theorem offEnd_linear (x : Nat → α) (r : α) (ind : Nat) (c : α) (h : x (ind + 1) ≠ x ind) :
    offEnd x 1 (fin r) ind c = { ind0 := ind, weight0 := fin ((x (ind + 1) - r) / (x (ind + 1) - x ind)) } := by
  simp [offEnd, ADEPT_EXTRAPOLATE_LINEAR, div_fin _ _ (sub_ne_zero.mpr h)]

theorem offEnd_clamp (x : Nat → α) (q : Ext α) (ind : Nat) (c : α) :
    offEnd x 2 q ind c = { ind0 := ind, weight0 := fin c } := rfl

theorem offEnd_constant (x : Nat → α) (q : Ext α) (ind : Nat) (c : α) :
    (offEnd x 3 q ind c).valid = false := rfl

theorem indexWeight_offFirst (n : Nat) (x : Nat → α) (inc : Bool) (policy : Nat) (q : Ext α)
    (h : OffFirst inc (x 0) q) : indexWeight n x inc policy q = offEnd x policy q 0 1 := by
  cases q with
  | fin r =>
    cases inc
    · rw [indexWeight_dec_fin, if_neg (fun c => absurd c.1 (not_le.mpr h)), if_pos (show x 0 < r from h)]
    · rw [indexWeight_inc_fin, if_neg (fun c => absurd c.1 (not_le.mpr h)), if_pos (show r < x 0 from h)]
  | pinf => cases h; rfl
  | ninf => cases h; rfl
  | nan => exact h.elim

theorem indexWeight_offLast {n : Nat} {x : Nat → α} {inc : Bool} (hx : Dir n x inc) (hn : 2 ≤ n) (policy : Nat)
    (q : Ext α) (h : OffLast inc (x (n - 1)) q) : indexWeight n x inc policy q = offEnd x policy q (n - 2) 0 := by
  have h0 := hx.first_last hn
  cases q with
  | fin r =>
    cases inc
    · rw [indexWeight_dec_fin, if_neg (fun c => absurd c.2 (not_le.mpr h)), if_neg (lt_trans h h0).not_gt]
    · rw [indexWeight_inc_fin, if_neg (fun c => absurd c.2 (not_le.mpr h)), if_neg (lt_trans h0 h).not_gt]
  | pinf => cases h; rfl
  | ninf => cases h; rfl
  | nan => exact h.elim

def IW.fw (w : IW α) : α := match w.weight0 with | fin a => a | _ => 0

/-- the 1-D operator an entry stands for, applied to a column `f` of data:
    `w * f(ind0) + (1 - w) * f(ind0 + 1)` -/
def op1 (w : IW α) (f : Nat → α) : α := w.fw * f w.ind0 + (1 - w.fw) * f (w.ind0 + 1)

theorem IW.fw_of {w : IW α} {a : α} (h : w.weight0 = fin a) : w.fw = a := by simp [IW.fw, h]

theorem eval2_tensor (m : Nat → Nat → α) (ev : Ext α) {wx wy : IW α} (hx : wx.valid = true) (hy : wy.valid = true)
    {a b : α} (ha : wx.weight0 = fin a) (hb : wy.weight0 = fin b) :
    eval2 m ev wx wy = fin (op1 wy (fun j => op1 wx (fun i => m i j))) := by
  simp [eval2, op1, hx, hy, ha, hb, IW.fw_of ha, IW.fw_of hb]

theorem eval3_tensor (m : Nat → Nat → Nat → α) (ev : Ext α) {wx wy wz : IW α}
    (hx : wx.valid = true) (hy : wy.valid = true) (hz : wz.valid = true)
    {a b c : α} (ha : wx.weight0 = fin a) (hb : wy.weight0 = fin b) (hc : wz.weight0 = fin c) :
    eval3 m ev wx wy wz = fin (op1 wx (fun i => op1 wy (fun j => op1 wz (fun k => m i j k)))) := by
  simp [eval3, op1, hx, hy, hz, ha, hb, hc, IW.fw_of ha, IW.fw_of hb, IW.fw_of hc]

theorem Bracketed.op1_isPWL {n : Nat} {x : Nat → α} {r : α} {w : IW α} (h : Bracketed n x r w) (f : Nat → α) :
    IsPWL n x f r (op1 w f) := by
  refine ⟨w.ind0, h.lt, h.seg, ?_⟩
  rw [op1, IW.fw_of h.weight, weight_line h.ne]

theorem indexWeightR_linear [HasRound α] (n : Nat) (x : Nat → α) (inc : Bool) (policy : Nat) (q : Ext α) :
    indexWeightR n x inc ADEPT_INTERPOLATE_LINEAR policy q = indexWeight n x inc policy q := by
  simp [indexWeightR, roundIf, ADEPT_INTERPOLATE_LINEAR, ADEPT_INTERPOLATE_NEAREST]

theorem Knots.bracketed [HasRound α] {n : Nat} {x : Nat → α} (hx : Knots n x) (hn : 2 ≤ n) (policy : Nat) {r : α}
    (hr : Inside n x r) :
    Bracketed n x r (indexWeightR n x (decide (x 1 > x 0)) ADEPT_INTERPOLATE_LINEAR policy (fin r)) := by
  rw [indexWeightR_linear, decide_gt_eq]
  exact indexWeight_inrange (hx.dir hn) hn policy hr

/-- one output element of `interp2d` -/
def interp2Elem [HasRound α] (nx ny : Nat) (x y : Nat → α) (m : Nat → Nat → α) (scheme policy : Nat)
    (ev qx qy : Ext α) : Ext α :=
  eval2 m ev (indexWeightR nx x (decide (x 1 > x 0)) scheme policy qx)
    (indexWeightR ny y (decide (y 1 > y 0)) scheme policy qy)

/-- one output element of `interp3d` -/
def interp3Elem [HasRound α] (nx ny nz : Nat) (x y z : Nat → α) (m : Nat → Nat → Nat → α) (scheme policy : Nat)
    (ev qx qy qz : Ext α) : Ext α :=
  eval3 m ev (indexWeightR nx x (decide (x 1 > x 0)) scheme policy qx)
    (indexWeightR ny y (decide (y 1 > y 0)) scheme policy qy)
    (indexWeightR nz z (decide (z 1 > z 0)) scheme policy qz)


/-- `Σ w · y[j]` over a weight list, in `Ext` arithmetic -/
def dotW (ws : List (Nat × Ext α)) (y : Nat → α) : Ext α :=
  ws.foldr (fun jw acc => jw.2 * fin (y jw.1) + acc) (fin 0)

def dotW2 (ws : List ((Nat × Nat) × Ext α)) (m : Nat → Nat → α) : Ext α :=
  ws.foldr (fun e acc => e.2 * fin (m e.1.1 e.1.2) + acc) (fin 0)

def dotW3 (ws : List ((Nat × Nat × Nat) × Ext α)) (m : Nat → Nat → Nat → α) : Ext α :=
  ws.foldr (fun e acc => e.2 * fin (m e.1.1 e.1.2.1 e.1.2.2) + acc) (fin 0)

theorem dotW_nil (y : Nat → α) : dotW [] y = fin 0 := rfl
theorem dotW_cons (j : Nat) (w : Ext α) (ws : List (Nat × Ext α)) (y : Nat → α) :
    dotW ((j, w) :: ws) y = w * fin (y j) + dotW ws y := rfl
theorem dotW2_nil (m : Nat → Nat → α) : dotW2 [] m = fin 0 := rfl
theorem dotW2_cons (i j : Nat) (w : Ext α) (ws : List ((Nat × Nat) × Ext α)) (m : Nat → Nat → α) :
    dotW2 (((i, j), w) :: ws) m = w * fin (m i j) + dotW2 ws m := rfl
theorem dotW3_nil (m : Nat → Nat → Nat → α) : dotW3 [] m = fin 0 := rfl
theorem dotW3_cons (i j k : Nat) (w : Ext α) (ws : List ((Nat × Nat × Nat) × Ext α)) (m : Nat → Nat → Nat → α) :
    dotW3 (((i, j, k), w) :: ws) m = w * fin (m i j k) + dotW3 ws m := rfl

/-! ### C `round()` of a weight in `[0,1]`, over `ℚ` -/

theorem roundC_unit {w : ℚ} (h0 : 0 ≤ w) (h1 : w ≤ 1) :
    HasRound.roundC w = if w < 1 / 2 then 0 else 1 := by
  show (if 0 ≤ w then (((w + 1 / 2).floor : Int) : ℚ) else _) = _
  rw [if_pos h0]
  -- `w + 1/2` lies in `[0, 1)` or in `[1, 2)`
  have fl : ∀ z : Int, (z : ℚ) ≤ w + 1 / 2 → w + 1 / 2 < (z : ℚ) + 1 → (w + 1 / 2).floor = z := fun z a b =>
    le_antisymm (Int.le_of_lt_add_one (Rat.floor_lt_iff.mpr (by push_cast; exact b))) (Rat.le_floor_iff.mpr a)
  by_cases c : w < 1 / 2
  · rw [if_pos c, fl 0 (by push_cast; linarith) (by push_cast; linarith)]
    rfl
  · rw [if_neg c, fl 1 (by push_cast; linarith [not_lt.mp c]) (by push_cast; linarith)]
    rfl

/-- `weight0 < 1/2`, the case in which `round` sends the weight to 0 and the entry selects `ind0 + 1`, is the
    comparison by which the 1-D routine picks `jmax` -/
theorem nearestPick_eq_round {n : Nat} {x : Nat → ℚ} {inc : Bool} (hx : Dir n x inc) {j : Nat} (hj : j + 1 < n)
    (r : ℚ) :
    nearestPick x inc (fin r) j (j + 1) = if (x (j + 1) - r) / (x (j + 1) - x j) < 1 / 2 then j + 1 else j := by
  -- `w < 1/2` says that `x (j+1) - r` is less than half the gap, i.e. less than the other part `r - x j`
  cases inc
  · rw [nearestPick_dec_fin]
    refine if_congr ?_ rfl rfl
    rw [div_lt_iff_of_neg (sub_neg.mpr (hx j (j + 1) (by omega) hj)), one_div_mul_eq_div,
      ← sub_add_sub_cancel' r (x j) (x (j + 1)), add_div_two_lt_right]
  · rw [nearestPick_inc_fin]
    refine if_congr ?_ rfl rfl
    rw [div_lt_iff₀ (sub_pos.mpr (hx j (j + 1) (by omega) hj)), one_div_mul_eq_div,
      ← sub_add_sub_cancel (x (j + 1)) r (x j), left_lt_add_div_two]

/-- after `weight0 = round(weight0)` an in-range entry selects exactly one of the two bracketing knots (weight 1
    or 0), a nearest one, ties going to the lower index (`round(0.5) = 1` keeps `ind0`) -/
theorem indexWeightR_nearest {n : Nat} {x : Nat → ℚ} {inc : Bool} (hx : Dir n x inc) (hn : 2 ≤ n)
    (policy : Nat) {r : ℚ} (hr : Inside n x r) :
    ∃ k, IsNearestLow n x r k ∧
      (indexWeightR n x inc ADEPT_INTERPOLATE_NEAREST policy (fin r)).valid = true ∧
      (∃ a, (indexWeightR n x inc ADEPT_INTERPOLATE_NEAREST policy (fin r)).weight0 = fin a) ∧
      ∀ f : Nat → ℚ, op1 (indexWeightR n x inc ADEPT_INTERPOLATE_NEAREST policy (fin r)) f = f k := by
  have hb := indexWeight_inrange hx hn policy hr
  obtain ⟨a, ha, h0, h1, _⟩ := hb.weight_unit
  have hR : indexWeightR n x inc ADEPT_INTERPOLATE_NEAREST policy (fin r) =
      { indexWeight n x inc policy (fin r) with weight0 := fin (if a < 1 / 2 then 0 else 1) } := by
    simp [indexWeightR, roundIf, ADEPT_INTERPOLATE_NEAREST, ha, Ext.round, roundC_unit h0 h1]
  obtain rfl := fin.inj (ha.symm.trans hb.weight)
  refine ⟨_, nearestPick_nearest hx hb.lt hb.seg, hR ▸ hb.valid, ⟨_, congrArg IW.weight0 hR⟩, fun f => ?_⟩
  rw [hR, nearestPick_eq_round hx hb.lt r, op1, IW.fw_of (a := if _ < 1 / 2 then 0 else 1) rfl]
  split_ifs
  · simp
  · simp

end Adept.Interp
