import AdeptProofs.Lemmas.ExprReal
/-!
C01-T0: every entry of the GENERATED unary table (AdeptModel/Generated/UnaryTable.lean) is sound: on the open
domain of the function, `dexpr x (fn x)` is the derivative of `fn` at `x`.

Each entry cites the derivative of the real function (`UFun.fn f` unfolds to it by computation) and then shows that
the C++ derivative expression, with its literals read as reals, is the derivative Mathlib states.
-/
namespace Adept.Expr
open Adept Real Filter Topology

/-- open domain of each table entry (where the function is differentiable) -/
def _root_.Adept.UFun.dom : UFun → ℝ → Prop
  | .Log | .Log10 | .Log2 | .Sqrt => fun x => 0 < x
  | .Asin | .Acos | .Atanh => fun x => -1 < x ∧ x < 1
  | .Acosh => fun x => 1 < x
  | .Tan => fun x => Real.cos x ≠ 0
  | .Abs | .Fabs | .Cbrt | .Not => fun x => x ≠ 0
  | .Ceil | .Floor | .Trunc => fun x => ∀ n : ℤ, x ≠ n
  | .Round | .Rint | .Nearbyint => fun x => ∀ n : ℤ, x ≠ n + 1 / 2
  | .Log1p => fun x => -1 < x
  | _ => fun _ => True

def _root_.Adept.UFun.Sound (f : UFun) : Prop :=
  ∀ x : ℝ, UFun.dom f x → HasDerivAt (UFun.fn f) (UFun.dexpr f x (UFun.fn f x)) x

-- makes the equations of `UFun.dexpr` available to the `simp` calls below
attribute [local simp] UFun.dexpr

theorem ok_Log : UFun.Sound .Log := fun x hx =>
  (Real.hasDerivAt_log hx.ne').congr_deriv (by simp only [UFun.dexpr, lit_one, one_div])

theorem log_div_const_hasDerivAt (c x : ℝ) (hx : 0 < x) : HasDerivAt (fun x => Real.log x / c) (1 / c / x) x :=
  ((Real.hasDerivAt_log hx.ne').div_const c).congr_deriv (by ring)

theorem ok_Log10 : UFun.Sound .Log10 := fun x hx => log_div_const_hasDerivAt (Real.log 10) x hx

theorem ok_Log2 : UFun.Sound .Log2 := fun x hx => log_div_const_hasDerivAt (Real.log 2) x hx

theorem ok_Sin : UFun.Sound .Sin := fun x _ => Real.hasDerivAt_sin x

theorem ok_Cos : UFun.Sound .Cos := fun x _ => Real.hasDerivAt_cos x

theorem ok_Tan : UFun.Sound .Tan := fun x hx =>
  (Real.hasDerivAt_tan hx).congr_deriv (by simp only [UFun.dexpr, lit_one, sq]; rfl)

theorem ok_Asin : UFun.Sound .Asin := fun x hx =>
  (Real.hasDerivAt_arcsin hx.1.ne' hx.2.ne).congr_deriv (by simp only [UFun.dexpr, lit_one, sq]; rfl)

theorem ok_Acos : UFun.Sound .Acos := fun x hx =>
  (Real.hasDerivAt_arccos hx.1.ne' hx.2.ne).congr_deriv (by simp only [UFun.dexpr, lit_one, sq, neg_div]; rfl)

theorem ok_Atan : UFun.Sound .Atan := fun x _ =>
  (Real.hasDerivAt_arctan x).congr_deriv (by simp only [UFun.dexpr, lit_one, sq])

theorem ok_Sinh : UFun.Sound .Sinh := fun x _ => Real.hasDerivAt_sinh x

theorem ok_Cosh : UFun.Sound .Cosh := fun x _ => Real.hasDerivAt_cosh x

theorem ok_Exp : UFun.Sound .Exp := fun x _ => Real.hasDerivAt_exp x

theorem ok_Fastexp : UFun.Sound .Fastexp := fun x _ => Real.hasDerivAt_exp x

theorem ok_Sqrt : UFun.Sound .Sqrt := fun x hx =>
  (Real.hasDerivAt_sqrt hx.ne').congr_deriv (by
    simp only [UFun.dexpr, lit_real, Nat.cast_one, Nat.cast_ofNat]
    exact (div_div 1 2 _).symm)

theorem ok_Asinh : UFun.Sound .Asinh := fun x _ =>
  (Real.hasDerivAt_arsinh x).congr_deriv (by simp only [UFun.dexpr, lit_one, sq, one_div, add_comm]; rfl)

theorem ok_Acosh : UFun.Sound .Acosh := fun x hx =>
  (Real.hasDerivAt_arcosh hx).congr_deriv (by simp only [UFun.dexpr, lit_one, sq, one_div]; rfl)

theorem ok_Erf : UFun.Sound .Erf := fun x _ =>
  (erfR_hasDerivAt x).congr_deriv (by simp only [UFun.dexpr, neg_mul]; rfl)

theorem ok_UnaryPlus : UFun.Sound .UnaryPlus := fun x _ =>
  (hasDerivAt_id x).congr_deriv (by simp only [UFun.dexpr, lit_one])

theorem ok_UnaryMinus : UFun.Sound .UnaryMinus := fun x _ =>
  (hasDerivAt_neg x).congr_deriv (by simp only [UFun.dexpr, lit_one])

theorem ok_Tanh : UFun.Sound .Tanh := fun x _ => by
  have hc : Real.cosh x ≠ 0 := (Real.cosh_pos x).ne'
  have e : (UFun.fn .Tanh : ℝ → ℝ) = fun x => Real.sinh x / Real.cosh x := funext Real.tanh_eq_sinh_div_cosh
  rw [e]
  refine ((Real.hasDerivAt_sinh x).div (Real.hasDerivAt_cosh x) hc).congr_deriv ?_
  simp only [UFun.dexpr, lit_one]
  rw [sub_div, div_mul_div_comm, sq, div_self (mul_ne_zero hc hc)]

theorem ok_Expm1 : UFun.Sound .Expm1 := fun x _ => (Real.hasDerivAt_exp x).sub_const 1

theorem ok_Exp2 : UFun.Sound .Exp2 := fun x _ =>
  (Real.hasStrictDerivAt_const_rpow two_pos x).hasDerivAt.congr_deriv (mul_comm _ _)

theorem ok_Log1p : UFun.Sound .Log1p := fun x hx =>
  (((hasDerivAt_id x).const_add 1).log (neg_lt_iff_pos_add'.mp hx).ne').congr_deriv
    (by simp only [UFun.dexpr, lit_one]; rfl)

theorem ok_Erfc : UFun.Sound .Erfc := fun x _ =>
  ((erfR_hasDerivAt x).const_sub 1).congr_deriv (by simp only [UFun.dexpr, neg_mul]; rfl)

theorem ok_Atanh : UFun.Sound .Atanh := fun x hx => by
  -- Mathlib's `artanh x` is `log √((1 + x) / (1 - x))`
  have hp : 0 < 1 + x := neg_lt_iff_pos_add'.mp hx.1
  have hm : 0 < 1 - x := sub_pos.mpr hx.2
  have h1 : 1 - x ≠ 0 := hm.ne'
  have h2 : 1 + x ≠ 0 := hp.ne'
  have h3 : 1 - x ^ 2 ≠ 0 := by rw [show 1 - x ^ 2 = (1 - x) * (1 + x) by ring]; exact mul_ne_zero h1 h2
  have hq : HasDerivAt (fun x : ℝ => (1 + x) / (1 - x)) _ x :=
    ((hasDerivAt_id x).const_add 1).div ((hasDerivAt_id x).const_sub 1) h1
  have hpos : 0 < (1 + x) / (1 - x) := div_pos hp hm
  refine ((hq.sqrt hpos.ne').log (Real.sqrt_ne_zero'.mpr hpos)).congr_deriv ?_
  simp only [UFun.dexpr, lit_one, id]
  rw [div_div _ (2 * _), mul_assoc, Real.mul_self_sqrt hpos.le]
  field_simp
  ring

theorem abs_sound (x : ℝ) (hx : x ≠ 0) : HasDerivAt (fun x => |x|) (UFun.dexpr .Abs x |x|) x := by
  rcases lt_or_gt_of_ne hx with h | h
  · exact (hasDerivAt_abs_neg h).congr_deriv (by simp [Num.b2i, h, not_lt.mpr h.le])
  · exact (hasDerivAt_abs_pos h).congr_deriv (by simp [Num.b2i, h, not_lt.mpr h.le])

theorem ok_Abs : UFun.Sound .Abs := abs_sound

theorem ok_Fabs : UFun.Sound .Fabs := abs_sound

theorem ok_Cbrt : UFun.Sound .Cbrt := fun x hx =>
  (cbrtR_hasDerivAt hx).congr_deriv (by simp only [UFun.dexpr, lit_real, Nat.cast_one, Nat.cast_ofNat, div_one]; rfl)

/-! ### step functions: derivative `0.0` away from the steps -/

theorem ok_Not : UFun.Sound .Not := fun x hx => by
  have hev : (UFun.fn .Not : ℝ → ℝ) =ᶠ[𝓝 x] fun _ => 0 := by
    filter_upwards [isOpen_ne.mem_nhds hx] with y hy using if_neg hy
  exact ((hasDerivAt_const x (0:ℝ)).congr_of_eventuallyEq hev).congr_deriv (lit_zero _).symm

theorem ok_Floor : UFun.Sound .Floor := fun _ hx => (floor_hasDerivAt hx).congr_deriv (lit_zero _).symm

theorem ok_Ceil : UFun.Sound .Ceil := fun _ hx => (ceil_hasDerivAt hx).congr_deriv (lit_zero _).symm

theorem ok_Trunc : UFun.Sound .Trunc := fun _ hx => (truncR_hasDerivAt hx).congr_deriv (lit_zero _).symm

theorem add_half_ne_int {x : ℝ} (hx : ∀ n : ℤ, x ≠ n + 1 / 2) (n : ℤ) : x + 1 / 2 ≠ n := fun e =>
  hx (n - 1) (by rw [Int.cast_sub, Int.cast_one, ← e]; ring)

theorem ok_Round : UFun.Sound .Round := fun _ hx =>
  (halfstair_hasDerivAt roundR_eq (add_half_ne_int hx)).congr_deriv (lit_zero _).symm

theorem ok_Rint : UFun.Sound .Rint := fun _ hx =>
  (halfstair_hasDerivAt rintR_eq (add_half_ne_int hx)).congr_deriv (lit_zero _).symm

theorem ok_Nearbyint : UFun.Sound .Nearbyint := ok_Rint

/-- **T0**: every entry of the generated unary table is sound on its open domain. -/
theorem unary_table_sound (f : UFun) : UFun.Sound f :=
  match f with
  | .Log => ok_Log
  | .Log10 => ok_Log10
  | .Sin => ok_Sin
  | .Cos => ok_Cos
  | .Tan => ok_Tan
  | .Asin => ok_Asin
  | .Acos => ok_Acos
  | .Atan => ok_Atan
  | .Sinh => ok_Sinh
  | .Cosh => ok_Cosh
  | .Abs => ok_Abs
  | .Fabs => ok_Fabs
  | .Sqrt => ok_Sqrt
  | .Tanh => ok_Tanh
  | .Fastexp => ok_Fastexp
  | .Exp => ok_Exp
  | .Ceil => ok_Ceil
  | .Floor => ok_Floor
  | .Log2 => ok_Log2
  | .Expm1 => ok_Expm1
  | .Exp2 => ok_Exp2
  | .Log1p => ok_Log1p
  | .Asinh => ok_Asinh
  | .Acosh => ok_Acosh
  | .Atanh => ok_Atanh
  | .Erf => ok_Erf
  | .Erfc => ok_Erfc
  | .Cbrt => ok_Cbrt
  | .Round => ok_Round
  | .Trunc => ok_Trunc
  | .Rint => ok_Rint
  | .Nearbyint => ok_Nearbyint
  | .UnaryPlus => ok_UnaryPlus
  | .UnaryMinus => ok_UnaryMinus
  | .Not => ok_Not

end Adept.Expr
