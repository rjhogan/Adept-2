import AdeptProofs.Lemmas.AssignLoops
/-!
Lemmas for C04.  Every statement of `AdeptModel/Assign.lean` runs one loop, `storeLoop`: positions in index order,
a mask and a right-hand side read from the memory the loop is writing.  `storeLoop_frozen` says when that is the
loop run on copies of mask and right-hand side taken beforehand; `storeLoop_aliasTested` discharges its hypothesis
on the right-hand side for the targets whose `operator=` tests for aliasing.  The property theorems are instances.
Before that: memory updates, soundness of `data_range`, conservativeness of the alias test.  Core Lean only.
-/
namespace Adept.Assign

@[simp] theorem write_same (m : Mem) (a x : Int) : write m a x a = x := by simp [write]

theorem write_other (m : Mem) (a x k : Int) (h : k ≠ a) : write m a x k = m k := by simp [write, h]

@[simp] theorem storePairs_nil (m : Mem) : storePairs [] m = m := rfl

@[simp] theorem storePairs_cons (p : Int × Int) (ps : List (Int × Int)) (m : Mem) :
    storePairs (p :: ps) m = storePairs ps (write m p.1 p.2) := rfl

theorem storePairs_not_mem (ps : List (Int × Int)) (m : Mem) (a : Int) (h : ∀ p ∈ ps, p.1 ≠ a) :
    storePairs ps m a = m a := by
  induction ps generalizing m with
  | nil => rfl
  | cons p ps ih =>
    rw [storePairs_cons, ih _ (fun q hq => h q (List.mem_cons_of_mem _ hq))]
    exact write_other _ _ _ _ (fun e => h p List.mem_cons_self e.symm)

/-- the final content of a cell is what the LAST pair addressing it stored, or the old content -/
theorem storePairs_lastWrite (ps : List (Int × Int)) (m : Mem) (a : Int) :
    storePairs ps m a = (lastWrite ps a).getD (m a) := by
  induction ps generalizing m with
  | nil => rfl
  | cons p ps ih =>
    obtain ⟨k, x⟩ := p
    rw [storePairs_cons, ih]
    simp only [lastWrite]
    cases h : lastWrite ps a with
    | some y => simp
    | none =>
      by_cases hk : k = a
      · subst hk; simp
      · simp [hk, write_other _ _ _ _ (Ne.symm hk)]

theorem storePairs_zip_map {α : Type} (L : List α) (f g : α → Int) (m : Mem) :
    storePairs ((L.map f).zip (L.map g)) m = L.foldl (fun m ix => write m (f ix) (g ix)) m := by
  induction L generalizing m with
  | nil => rfl
  | cons a L ih => simp [ih]

theorem storePairs_zip_filter {α : Type} (L : List α) (f g : α → Int) (b : α → Bool) (m : Mem) :
    storePairs ((((L.map f).zip (L.map g)).zip (L.map b)).filterMap fun p => if p.2 then some p.1 else none) m
      = L.foldl (fun m ix => if b ix then write m (f ix) (g ix) else m) m := by
  induction L generalizing m with
  | nil => rfl
  | cons a L ih =>
    cases hb : b a <;> simp [hb, ih]

theorem mem_zip_of_mem_zip3 {α β γ : Type} (k : α) (x : β) (b : γ) (l1 : List α) (l2 : List β) (l3 : List γ)
    (h : ((k, x), b) ∈ (l1.zip l2).zip l3) : (k, b) ∈ l1.zip l3 := by
  induction l1 generalizing l2 l3 with
  | nil => simp at h
  | cons c l1 ih =>
    cases l2 with
    | nil => simp at h
    | cons y l2 =>
      cases l3 with
      | nil => simp at h
      | cons d l3 =>
        simp only [List.zip_cons_cons, List.mem_cons, Prod.mk.injEq] at h ⊢
        exact h.imp (fun h => ⟨h.1.1, h.2⟩) (ih l2 l3)

theorem storeWhere_unselected (lhs : View) (bs : List Bool) (xs : List Int) (m : Mem) (a : Int)
    (h : ∀ p ∈ lhs.cells.zip bs, p.1 = a → p.2 = false) : storeWhere lhs bs xs m a = m a := by
  refine storePairs_not_mem _ m a fun p hp e => ?_
  obtain ⟨⟨⟨k, x⟩, b⟩, hq, hq2⟩ := List.mem_filterMap.mp hp
  cases b with
  | false => simp at hq2
  | true =>
    obtain rfl : (k, x) = p := by simpa using hq2
    simpa using h _ (mem_zip_of_mem_zip3 k x true _ _ _ hq) e

theorem mem_idxs_cons {d : Nat} {ds : List Nat} {ix : List Nat} :
    ix ∈ idxs (d :: ds) ↔ ∃ i r, i < d ∧ r ∈ idxs ds ∧ ix = i :: r := by
  simp only [idxs, List.mem_flatMap, List.mem_range, List.mem_map]
  constructor
  · rintro ⟨i, hi, r, hr, rfl⟩; exact ⟨i, r, hi, hr, rfl⟩
  · rintro ⟨i, r, hi, hr, rfl⟩; exact ⟨i, hi, r, hr, rfl⟩

theorem mem_cells {v : View} {ix : List Nat} (h : ix ∈ idxs v.dims) : v.addr ix ∈ v.cells :=
  List.mem_map.mpr ⟨ix, h, rfl⟩

/-- the loop widens `[b, e]` by the extreme value of each term `i * s`, whichever end that is -/
theorem rangeLoop_sound (ds : List Nat) (ss : List Int) (b e x : Int) (hb : b ≤ x) (he : x ≤ e)
    (ix : List Nat) (hix : ix ∈ idxs ds) :
    (rangeLoop ds ss (b, e)).1 ≤ x + dot ix ss ∧ x + dot ix ss ≤ (rangeLoop ds ss (b, e)).2 := by
  induction ds generalizing ss b e x ix with
  | nil =>
    obtain rfl : ix = [] := by simpa [idxs] using hix
    cases ss <;> simp [rangeLoop, dot] <;> omega
  | cons d ds ih =>
    obtain ⟨i, r, hi, hr, rfl⟩ := mem_idxs_cons.mp hix
    cases ss with
    | nil => simp [rangeLoop, dot]; omega
    | cons s ss =>
      have hid : (i : Int) ≤ (d : Int) - 1 := by omega
      have hi0 : (0 : Int) ≤ (i : Int) := Int.natCast_nonneg i
      simp only [rangeLoop, dot, ← Int.add_assoc]
      by_cases hs : s ≥ 0
      · have h1 := Int.mul_nonneg hi0 hs
        have h2 := Int.mul_le_mul_of_nonneg_right hid hs
        simp only [hs, if_true]
        exact ih ss b _ _ (by omega) (by omega) r hr
      · have hs' : s ≤ 0 := by omega
        have h1 := Int.mul_nonpos_of_nonneg_of_nonpos hi0 hs'
        have h2 := Int.mul_le_mul_of_nonpos_right hid hs'
        simp only [hs, if_false]
        exact ih ss _ e _ (by omega) (by omega) r hr

theorem dataRange_sound (v : View) : ∀ ix ∈ idxs v.dims,
    v.dataRange.1 ≤ v.addr ix ∧ v.addr ix ≤ v.dataRange.2 :=
  rangeLoop_sound v.dims v.strides v.base v.base v.base (Int.le_refl _) (Int.le_refl _)

theorem not_aliased_disjoint (lhs v : View) (h : v.isAliased lhs.dataRange.1 lhs.dataRange.2 = false) :
    ∀ a ∈ lhs.cells, a ∉ v.cells := by
  intro a ha hv
  obtain ⟨ix, hix, rfl⟩ := List.mem_map.mp ha
  obtain ⟨iy, hiy, e⟩ := List.mem_map.mp hv
  have h1 := dataRange_sound lhs ix hix
  have h2 := dataRange_sound v iy hiy
  simp only [View.isAliased, Bool.and_eq_false_iff, decide_eq_false_iff_not] at h
  omega

theorem leaves_not_aliased (e : Expr) (a b : Int) (h : e.isAliased a b = false) :
    ∀ v ∈ e.checkedLeaves, v.isAliased a b = false := by
  induction e with
  | bin op l r ihl ihr =>
    simp only [Expr.isAliased, Bool.or_eq_false_iff] at h
    simp only [Expr.checkedLeaves, List.mem_append]
    exact fun v hv => hv.elim (ihl h.1 v) (ihr h.2 v)
  | leaf v | ileaf w | spread d v | outer l r => simpa [Expr.checkedLeaves, Expr.isAliased] using h
  | const c | noalias e _ | tmp f => simp [Expr.checkedLeaves]

theorem alias_conservative (lhs : View) (e : Expr) (h : e.isAliased lhs.dataRange.1 lhs.dataRange.2 = false) :
    ∀ v ∈ e.checkedLeaves, ∀ a ∈ lhs.cells, a ∉ v.cells :=
  fun v hv => not_aliased_disjoint lhs v (leaves_not_aliased e _ _ h v hv)

theorem evalAt_congr (e : Expr) (m m' : Mem) (ix : List Nat) (h : ∀ a ∈ e.reads ix, m a = m' a) :
    e.evalAt m ix = e.evalAt m' ix := by
  induction e with
  | bin op l r ihl ihr =>
    simp only [Expr.evalAt]
    rw [ihl (fun a ha => h a (by simp [Expr.reads, ha])), ihr (fun a ha => h a (by simp [Expr.reads, ha]))]
  | noalias e ih => exact ih h
  | leaf v | ileaf w | spread d v => exact h _ (by simp [Expr.reads])
  | outer l r =>
    simp only [Expr.evalAt]
    rw [h _ (by simp [Expr.reads]), h _ (by simp [Expr.reads])]
  | const c | tmp f => rfl

theorem bevalAt_congr (b : BExpr) (m m' : Mem) (ix : List Nat) (h : ∀ a ∈ b.reads ix, m a = m' a) :
    b.evalAt m ix = b.evalAt m' ix := by
  induction b with
  | cmp c l r =>
    simp only [BExpr.evalAt]
    rw [evalAt_congr l m m' ix (fun a ha => h a (by simp [BExpr.reads, ha])),
        evalAt_congr r m m' ix (fun a ha => h a (by simp [BExpr.reads, ha]))]
  | not b ih => simp only [BExpr.evalAt]; rw [ih h]
  | and l r ihl ihr | or l r ihl ihr =>
    simp only [BExpr.evalAt]
    rw [ihl (fun a ha => h a (by simp [BExpr.reads, ha])), ihr (fun a ha => h a (by simp [BExpr.reads, ha]))]
  | lit f => rfl

theorem maskAll_congr (mask : BExpr) (dims : List Nat) (m m' : Mem)
    (h : ∀ ix ∈ idxs dims, ∀ a ∈ mask.reads ix, m a = m' a) : maskAll mask dims m = maskAll mask dims m' :=
  List.map_congr_left fun ix hix => bevalAt_congr mask m m' ix (h ix hix)

theorem evalAll_congr (e : Expr) (dims : List Nat) (m m' : Mem)
    (h : ∀ ix ∈ idxs dims, ∀ a ∈ e.reads ix, m a = m' a) : evalAll e dims m = evalAll e dims m' :=
  List.map_congr_left fun ix hix => evalAt_congr e m m' ix (h ix hix)

theorem safeFor_of_disjoint (addr : List Nat → Int) (L : List (List Nat)) (reads : List Nat → List Int)
    (h : ∀ ix' ∈ L, ∀ ix ∈ L, addr ix' ∉ reads ix) : SafeFor addr L reads :=
  List.pairwise_of_forall_mem_list h

theorem safeFor_nil (addr : List Nat → Int) (L : List (List Nat)) : SafeFor addr L (fun _ => []) :=
  safeFor_of_disjoint _ _ _ fun _ _ _ _ => List.not_mem_nil

theorem safeFor_append (addr : List Nat → Int) (L : List (List Nat)) (r1 r2 : List Nat → List Int)
    (h1 : SafeFor addr L r1) (h2 : SafeFor addr L r2) : SafeFor addr L (fun ix => r1 ix ++ r2 ix) :=
  (List.Pairwise.and h1 h2).imp (fun h => by simpa using h)

/-- reading, at every position, exactly the cell that position writes is safe when the target is injective
    (the `noalias(*this)` of `op=`) -/
theorem safeFor_self (addr : List Nat → Int) (L : List (List Nat)) (h : (L.map addr).Nodup) :
    SafeFor addr L (fun ix => [addr ix]) :=
  (List.pairwise_map.mp h).imp (fun h => by simpa using h)

theorem naSafe_compound (addr : List Nat → Int) (L : List (List Nat)) (op : BOp) (self rhs : Expr)
    (hs : SafeFor addr L self.reads) (hna : ∀ t ∈ rhs.noaliasTerms, SafeFor addr L t.reads) :
    ∀ t ∈ (Expr.bin op (.noalias self) rhs).noaliasTerms, SafeFor addr L t.reads := by
  intro t ht
  simp only [Expr.noaliasTerms, List.singleton_append, List.mem_cons] at ht
  exact ht.elim (fun h => h ▸ hs) (hna t)

/-- when the alias test against the range of `t` finds nothing, every checked operand is safe for a target whose
    addresses are cells of `t`; the `noalias` terms are the caller's duty -/
theorem safeFor_of_not_aliased (t : View) (addr : List Nat → Int) (dims : List Nat)
    (haddr : ∀ ix ∈ idxs dims, addr ix ∈ t.cells)
    (e : Expr) (hc : e.Conforms dims) (ha : e.isAliased t.dataRange.1 t.dataRange.2 = false)
    (hna : ∀ t ∈ e.noaliasTerms, SafeFor addr (idxs dims) t.reads) :
    SafeFor addr (idxs dims) e.reads := by
  -- a read that lands in an operand the test declared disjoint from `t` is no cell of the target
  have leaf : ∀ (v : View) (c : List Nat → List Nat), v.isAliased t.dataRange.1 t.dataRange.2 = false →
      (∀ ix ∈ idxs dims, c ix ∈ idxs v.dims) → SafeFor addr (idxs dims) (fun ix => [v.addr (c ix)]) :=
    fun v c hv hcv => safeFor_of_disjoint _ _ _ fun ix' h' ix h hmem =>
      not_aliased_disjoint t v hv _ (haddr ix' h') (List.mem_singleton.mp hmem ▸ mem_cells (hcv ix h))
  induction e with
  | leaf v => exact leaf v id ha hc
  | ileaf w => exact leaf w.a (pick w.sel) ha hc
  | spread d v => exact leaf v (dropAt d) ha hc
  | outer l r =>
    simp only [Expr.isAliased, Bool.or_eq_false_iff] at ha
    exact safeFor_append _ _ _ _ (leaf l (·.take 1) ha.1 fun ix h => (hc ix h).1)
      (leaf r (·.drop 1) ha.2 fun ix h => (hc ix h).2)
  | bin op l r ihl ihr =>
    simp only [Expr.isAliased, Bool.or_eq_false_iff] at ha
    exact safeFor_append _ _ _ _
      (ihl hc.1 ha.1 (fun t ht => hna t (by simp [Expr.noaliasTerms, ht])))
      (ihr hc.2 ha.2 (fun t ht => hna t (by simp [Expr.noaliasTerms, ht])))
  | noalias e _ => exact hna e (by simp [Expr.noaliasTerms])
  | const c | tmp f => exact safeFor_nil _ _

/-- the loop all statements run: position `ix` of `L`, in order, is stored at `addr ix` when the mask holds there;
    mask and value are read from the running memory -/
def storeLoop (addr : List Nat → Int) (mask : BExpr) (rhs : Expr) (L : List (List Nat)) (m : Mem) : Mem :=
  L.foldl (fun m ix => if mask.evalAt m ix then write m (addr ix) (rhs.evalAt m ix) else m) m

/-- the mask of an unconditional statement -/
def BExpr.top : BExpr := .lit fun _ => true

theorem seqAssign_eq_storeLoop (lhs : View) (rhs : Expr) (m : Mem) :
    seqAssign lhs rhs m = storeLoop lhs.addr .top rhs (idxs lhs.dims) m := rfl

theorem seqWhere_eq_storeLoop (lhs : View) (mask : BExpr) (rhs : Expr) (m : Mem) :
    seqWhere lhs mask rhs m = storeLoop lhs.addr mask rhs (idxs lhs.dims) m := rfl

theorem indexedAssignExpression_eq_storeLoop (lhs : IView) (rhs : Expr) (m : Mem) :
    indexedAssignExpression lhs rhs m = storeLoop lhs.addr .top rhs (idxs lhs.dims) m := rfl

/-! A loop on copies reads nothing from the running memory: it is a store of the copied values. -/

theorem storeLoop_copies_eq_storeWhere (lhs : View) (mask : BExpr) (rhs : Expr) (m m' : Mem) :
    storeLoop lhs.addr (.lit (mask.evalAt m)) (rhs.snapshot m) (idxs lhs.dims) m'
      = storeWhere lhs (maskAll mask lhs.dims m) (evalAll rhs lhs.dims m) m' :=
  (storePairs_zip_filter _ lhs.addr (rhs.evalAt m) (mask.evalAt m) m').symm

theorem storeLoop_copy_eq_storePairs (addr : List Nat → Int) (rhs : Expr) (L : List (List Nat)) (m m' : Mem) :
    storeLoop addr .top (rhs.snapshot m) L m' = storePairs ((L.map addr).zip (L.map (rhs.evalAt m))) m' :=
  (storePairs_zip_map L addr (rhs.evalAt m) m').symm

theorem BExpr.lit_evalAt_top (m : Mem) : BExpr.lit (BExpr.top.evalAt m) = BExpr.top := rfl

theorem Expr.snapshot_snapshot (e : Expr) (m m' : Mem) : (e.snapshot m).snapshot m' = e.snapshot m := rfl

/-- If no cell stored at an earlier position is read at a later one, by the mask or by the right-hand side, the
    loop is the one run on copies of both taken before it starts. -/
theorem storeLoop_frozen (addr : List Nat → Int) (mask : BExpr) (rhs : Expr) (L : List (List Nat)) (m : Mem)
    (hm : SafeFor addr L mask.reads) (hr : SafeFor addr L rhs.reads) :
    storeLoop addr mask rhs L m = storeLoop addr (.lit (mask.evalAt m)) (rhs.snapshot m) L m := by
  -- invariant: the running memory agrees with `m` on every cell still to be read
  suffices h : ∀ m', (∀ ix ∈ L, ∀ a, a ∈ mask.reads ix ∨ a ∈ rhs.reads ix → m' a = m a) →
      storeLoop addr mask rhs L m' = storeLoop addr (.lit (mask.evalAt m)) (rhs.snapshot m) L m' from
    h m fun _ _ _ _ => rfl
  induction L with
  | nil => exact fun _ _ => rfl
  | cons ix L ih =>
    intro m' hag
    obtain ⟨hm1, hm2⟩ := List.pairwise_cons.mp hm
    obtain ⟨hr1, hr2⟩ := List.pairwise_cons.mp hr
    have e1 : mask.evalAt m' ix = mask.evalAt m ix :=
      bevalAt_congr mask m' m ix fun a ha => hag ix List.mem_cons_self a (Or.inl ha)
    have e2 : rhs.evalAt m' ix = rhs.evalAt m ix :=
      evalAt_congr rhs m' m ix fun a ha => hag ix List.mem_cons_self a (Or.inr ha)
    simp only [storeLoop, List.foldl_cons, e1, e2, BExpr.evalAt, Expr.snapshot, Expr.evalAt]
    refine ih hm2 hr2 _ fun ix2 h2 a ha => ?_
    rw [← hag ix2 (List.mem_cons_of_mem _ h2) a ha]
    split
    · exact write_other _ _ _ _ (by rintro rfl; exact ha.elim (hm1 ix2 h2) (hr1 ix2 h2))
    · rfl

/-! What `noalias(target) op rhs` evaluates to, for an `Array` and for an `IndexedArray` target. -/

theorem evalAll_compound (op : BOp) (lhs : View) (rhs : Expr) (dims : List Nat) (m : Mem) :
    evalAll (.bin op (.noalias (.leaf lhs)) rhs) dims m
      = (idxs dims).map fun ix => op.ap (m (lhs.addr ix)) (rhs.evalAt m ix) := rfl

theorem evalAll_compound_indexed (op : BOp) (lhs : IView) (rhs : Expr) (dims : List Nat) (m : Mem) :
    evalAll (.bin op (.noalias (.ileaf lhs)) rhs) dims m
      = (idxs dims).map fun ix => op.ap (m (lhs.addr ix)) (rhs.evalAt m ix) := rfl

/-- `operator=` of a target whose cells lie in the view `t`: test the right-hand side against the range of `t`,
    copy it if the test fires.  Either way the right-hand side is as if copied; the mask is not tested. -/
theorem storeLoop_aliasTested (t : View) (addr : List Nat → Int) (dims : List Nat)
    (haddr : ∀ ix ∈ idxs dims, addr ix ∈ t.cells) (mask : BExpr) (rhs : Expr) (m : Mem)
    (hc : rhs.Conforms dims) (hm : SafeFor addr (idxs dims) mask.reads)
    (hna : ∀ t ∈ rhs.noaliasTerms, SafeFor addr (idxs dims) t.reads) :
    (if rhs.isAliased t.dataRange.1 t.dataRange.2 then storeLoop addr mask (rhs.snapshot m) (idxs dims) m
      else storeLoop addr mask rhs (idxs dims) m)
      = storeLoop addr (.lit (mask.evalAt m)) (rhs.snapshot m) (idxs dims) m := by
  cases ha : rhs.isAliased t.dataRange.1 t.dataRange.2 with
  | true =>
    rw [if_pos rfl, storeLoop_frozen addr mask (rhs.snapshot m) _ m hm (safeFor_nil _ _), Expr.snapshot_snapshot]
  | false =>
    rw [if_neg Bool.false_ne_true]
    exact storeLoop_frozen addr mask rhs _ m hm (safeFor_of_not_aliased t addr dims haddr rhs hc ha hna)

theorem seq_eq_par (lhs : View) (rhs : Expr) (m : Mem) (hs : SafeFor lhs.addr (idxs lhs.dims) rhs.reads) :
    seqAssign lhs rhs m = storeAll lhs (evalAll rhs lhs.dims m) m := by
  rw [seqAssign_eq_storeLoop, storeLoop_frozen lhs.addr .top rhs _ m (safeFor_nil _ _) hs, BExpr.lit_evalAt_top]
  exact storeLoop_copy_eq_storePairs lhs.addr rhs _ m m

theorem seqWhere_frozen (lhs : View) (mask : BExpr) (rhs : Expr) (m : Mem)
    (hm : SafeFor lhs.addr (idxs lhs.dims) mask.reads) (hr : SafeFor lhs.addr (idxs lhs.dims) rhs.reads) :
    seqWhere lhs mask rhs m = storeWhere lhs (maskAll mask lhs.dims m) (evalAll rhs lhs.dims m) m := by
  rw [seqWhere_eq_storeLoop, storeLoop_frozen lhs.addr mask rhs _ m hm hr]
  exact storeLoop_copies_eq_storeWhere lhs mask rhs m m

theorem copy_path (lhs : View) (rhs : Expr) (m : Mem) :
    seqAssign lhs (rhs.snapshot m) m = storeAll lhs (evalAll rhs lhs.dims m) m :=
  (seqAssign_eq_storeLoop lhs _ m).trans (storeLoop_copy_eq_storePairs lhs.addr rhs _ m m)

theorem snapshot_reads (e : Expr) (m : Mem) (ix : List Nat) : (e.snapshot m).reads ix = [] := rfl

theorem not_empty_of_WF {v : View} (h : v.WF) : v.empty = false := by
  obtain ⟨_, hpos, hrank⟩ := h
  cases hd : v.dims with
  | nil => exact absurd hd hrank
  | cons d ds =>
    have : 0 < d := hpos d (by simp [hd])
    simp [View.empty, hd]; omega

theorem assign_semantics (lhs : View) (rhs : Expr) (m : Mem) (hw : lhs.WF) (hc : rhs.Conforms lhs.dims)
    (hna : ∀ t ∈ rhs.noaliasTerms, SafeFor lhs.addr (idxs lhs.dims) t.reads) :
    assign lhs rhs m = storeAll lhs (evalAll rhs lhs.dims m) m := by
  unfold assign
  simp only [not_empty_of_WF hw, Bool.false_eq_true, if_false, assignExpression_eq_seq _ _ _ hw,
    seqAssign_eq_storeLoop]
  rw [storeLoop_aliasTested lhs lhs.addr lhs.dims (fun _ => mem_cells) .top rhs m hc (safeFor_nil _ _) hna,
    BExpr.lit_evalAt_top]
  exact storeLoop_copy_eq_storePairs lhs.addr rhs _ m m

theorem assignScalar_eq_assign (lhs : View) (x : Int) (m : Mem) : assignScalar lhs x m = assign lhs (.const x) m := by
  simp only [assignScalar, traverse_innerScalar]
  -- `assign` takes the branch without a copy: `(Expr.const x).isAliased _ _` is `false` by definition
  rfl

/-- `A.where(mask) = rhs` as coded, for masks that are safe to evaluate lazily -/
theorem assignConditional_semantics (lhs : View) (mask : BExpr) (rhs : Expr) (m : Mem) (hw : lhs.WF)
    (hc : rhs.Conforms lhs.dims)
    (hm : SafeFor lhs.addr (idxs lhs.dims) mask.reads)
    (hna : ∀ t ∈ rhs.noaliasTerms, SafeFor lhs.addr (idxs lhs.dims) t.reads) :
    assignConditional lhs mask rhs m = storeWhere lhs (maskAll mask lhs.dims m) (evalAll rhs lhs.dims m) m := by
  unfold assignConditional
  simp only [assignConditional__eq_seq _ _ _ _ hw, seqWhere_eq_storeLoop]
  rw [storeLoop_aliasTested lhs lhs.addr lhs.dims (fun _ => mem_cells) mask rhs m hc hm hna]
  exact storeLoop_copies_eq_storeWhere lhs mask rhs m m

def WRhs.evalAll : WRhs → List Nat → Mem → List Int
  | .expr e, dims, m => Adept.Assign.evalAll e dims m
  | .scalar x, dims, _ => (idxs dims).map fun _ => x

def WRhs.Conforms (dims : List Nat) : WRhs → Prop
  | .expr e => e.Conforms dims
  | .scalar _ => True

/-- the `noalias` terms of the right-hand side are safe to read lazily -/
def WRhs.NaSafe (lhs : View) : WRhs → Prop
  | .expr e => ∀ t ∈ e.noaliasTerms, SafeFor lhs.addr (idxs lhs.dims) t.reads
  | .scalar _ => True

/-- no operand of the right-hand side reads a cell of the target at all -/
def WRhs.Avoids (lhs : View) : WRhs → Prop
  | .expr e => ∀ ix ∈ idxs lhs.dims, ∀ a ∈ e.reads ix, a ∉ lhs.cells
  | .scalar _ => True

/-! A scalar right-hand side is the constant expression: for each notion above, and for the statement. -/

theorem WRhs.evalAll_eq (r : WRhs) (dims : List Nat) (m : Mem) :
    r.evalAll dims m = Adept.Assign.evalAll r.toExpr dims m := by
  cases r <;> rfl

theorem toExpr_conforms (r : WRhs) (dims : List Nat) (h : r.Conforms dims) : r.toExpr.Conforms dims := by
  cases r with
  | expr e => exact h
  | scalar x => exact trivial

theorem toExpr_naSafe (r : WRhs) (lhs : View) (h : r.NaSafe lhs) :
    ∀ t ∈ r.toExpr.noaliasTerms, SafeFor lhs.addr (idxs lhs.dims) t.reads := by
  cases r with
  | expr e => exact h
  | scalar x => exact fun _ ht => nomatch ht

theorem whereAssign_eq (lhs : View) (mask : BExpr) (r : WRhs) (m : Mem) (hw : lhs.WF) :
    whereAssign lhs mask r m = assignConditional lhs mask r.toExpr m := by
  cases r with
  | expr e => rfl
  | scalar x => simp only [whereAssign, assignConditionalScalar, not_empty_of_WF hw]; rfl

/-- every selected index lies inside the wrapped array, and the selection is not empty -/
structure IView.WF (w : IView) : Prop where
  inb : ∀ ix ∈ idxs w.dims, pick w.sel ix ∈ idxs w.a.dims
  nonempty : (w.dims.head? == some 0 || w.dims.isEmpty) = false

theorem fold_zipIdx_write (base s : Int) (xs : List Int) (k : Nat) (m : Mem) :
    (xs.zipIdx k).foldl (fun m p => write m (base + (p.2 : Int) * s) p.1) m
      = storePairs (((List.range' k xs.length).map fun (j : Nat) => base + (j : Int) * s).zip xs) m := by
  induction xs generalizing k m with
  | nil => simp [storePairs]
  | cons x xs ih =>
    simp only [List.zipIdx_cons, List.foldl_cons, List.length_cons, List.range'_succ, List.map_cons, List.zip_cons_cons,
      storePairs]
    exact ih (k + 1) _

end Adept.Assign
