import AdeptModel.GradObj
import AdeptProofs.Lemmas.GradAlloc
/-!
What the object layer of C08 (`AdeptModel/GradObj.lean`) needs before its invariant can be stated: tables and the heap are lists
whose elements have distinct keys, so an entry can be split off up to order; and a freshly laid out array, or a view obtained by
indexing, lies inside the storage (or the view) it belongs to.  Core Lean only.
-/
namespace Adept.GradObj
open Adept.GradAlloc

section Keys
variable {α κ : Type} [DecidableEq κ] (k : α → κ)

theorem perm_cons_filter_key : ∀ {l : List α} {x : α}, (l.map k).Nodup → x ∈ l →
    l.Perm (x :: l.filter (fun y => k y != k x))
  | [], _, _, hm => nomatch hm
  | y :: l, x, hn, hm => by
    rw [List.map_cons, List.nodup_cons] at hn
    by_cases hk : k y = k x
    · have hyx : y = x := by
        rcases List.mem_cons.1 hm with e | hin
        · exact e.symm
        · exact absurd (List.mem_map.2 ⟨x, hin, hk.symm⟩) hn.1
      subst hyx
      have : (y :: l).filter (fun z => k z != k y) = l := by
        rw [List.filter_cons_of_neg (by simp)]
        exact List.filter_eq_self.2 fun z hz => by
          have : k z ≠ k y := fun e => hn.1 (List.mem_map.2 ⟨z, hz, e⟩)
          simpa using this
      rw [this]
    · have hin : x ∈ l := (List.mem_cons.1 hm).resolve_left fun e => hk (e ▸ rfl)
      rw [List.filter_cons_of_pos (by simpa using hk)]
      exact ((perm_cons_filter_key hn.2 hin).cons y).trans (List.Perm.swap _ _ _)

theorem eq_of_key_eq {l : List α} {x y : α} (hn : (l.map k).Nodup) (hx : x ∈ l) (hy : y ∈ l)
    (h : k x = k y) : x = y := by
  rcases List.mem_cons.1 ((perm_cons_filter_key k hn hx).mem_iff.1 hy) with e | hin
  · exact e.symm
  · exact absurd h.symm (by simpa using (List.mem_filter.1 hin).2)

end Keys

section Assoc
variable {β : Type}

theorem lookup_some_mem {l : List (Nat × β)} {h : Nat} {o : β} (hl : l.lookup h = some o) : (h, o) ∈ l := by
  obtain ⟨l₁, l₂, rfl, -⟩ := List.lookup_eq_some_iff.1 hl
  exact List.mem_append_right _ List.mem_cons_self

theorem lookup_none_not_mem {l : List (Nat × β)} {h : Nat} (hl : l.lookup h = none) : h ∉ l.map (·.1) := by
  intro hm
  obtain ⟨p, hp, rfl⟩ := List.mem_map.1 hm
  simpa using List.lookup_eq_none_iff.1 hl p hp

def others (l : List (Nat × β)) (h : Nat) : List (Nat × β) := l.filter (fun p => p.1 != h)

theorem mem_others {l : List (Nat × β)} {h : Nat} {p : Nat × β} : p ∈ others l h ↔ p ∈ l ∧ p.1 ≠ h := by
  simp [others, List.mem_filter]

theorem others_keys_nodup {l : List (Nat × β)} (h : Nat) (hn : (l.map (·.1)).Nodup) :
    ((others l h).map (·.1)).Nodup :=
  List.Pairwise.sublist (List.Sublist.map _ List.filter_sublist) hn

theorem not_mem_others_keys (l : List (Nat × β)) (h : Nat) : h ∉ (others l h).map (·.1) := by
  intro hm
  obtain ⟨p, hp, rfl⟩ := List.mem_map.1 hm
  exact (mem_others.1 hp).2 rfl

theorem cons_others_keys_nodup {l : List (Nat × β)} (h : Nat) (o : β) (hn : (l.map (·.1)).Nodup) :
    (((h, o) :: others l h).map (·.1)).Nodup := by
  simp only [List.map_cons, List.nodup_cons]
  exact ⟨not_mem_others_keys l h, others_keys_nodup h hn⟩

theorem key_unique {l : List (Nat × β)} {h : Nat} {o o' : β} (hn : (l.map (·.1)).Nodup)
    (h1 : (h, o) ∈ l) (h2 : (h, o') ∈ l) : o = o' :=
  (Prod.mk.inj (eq_of_key_eq (·.1) hn h1 h2 rfl)).2

end Assoc

theorem le_rowLen {P : Nat} (hP : 0 < P) (d : Nat) : d ≤ rowLen P d := by
  unfold rowLen
  split
  · exact (ceil_spec hP d).2.1
  · exact Nat.le_refl _

theorem pred_mul_add (d s : Nat) (h : 0 < d) : d * s = (d - 1) * s + s := by
  have : d = (d - 1) + 1 := by omega
  conv => lhs; rw [this, Nat.add_mul, Nat.one_mul]

/-- a freshly packed array lies inside the data volume `offset_[0]*dimensions_[0]` that `resize` allocates -/
theorem packAux_bound {P : Nat} (hP : 0 < P) : ∀ (ds : List Nat), ds ≠ [] → (∀ d ∈ ds, 0 < d) →
    ext ds (packAux P ds).2 + 1 ≤ ds.headD 0 * (packAux P ds).1
  | [], hne, _ => absurd rfl hne
  | [d], _, hp => by
    have := hp d (by simp)
    simp only [packAux, ext, List.headD_cons]
    omega
  | [d0, d1], _, hp => by
    have h0 := hp d0 (by simp)
    have h1 := hp d1 (by simp)
    have hr := le_rowLen hP d1
    simp only [packAux, ext, List.headD_cons]
    have := pred_mul_add d0 (rowLen P d1) h0
    omega
  | d0 :: d1 :: d2 :: rest, _, hp => by
    have h0 := hp d0 (by simp)
    have ih := packAux_bound hP (d1 :: d2 :: rest) (by simp) (fun d hd => hp d (List.mem_cons_of_mem _ hd))
    simp only [List.headD_cons] at ih
    simp only [packAux, ext, List.headD_cons]
    have := pred_mul_add d0 (d1 * (packAux P (d1 :: d2 :: rest)).1) h0
    omega

/-- whatever the static type, the view of a freshly allocated object lies inside the storage it allocates (which is not empty) -/
theorem layout_ok {P : Nat} (hP : 0 < P) (kind : Nat) (dims : List Nat) (hne : dims ≠ []) (hp : ∀ d ∈ dims, 0 < d) :
    ext (layout kind P dims).1 (layout kind P dims).2.1 + 1 ≤ (layout kind P dims).2.2 := by
  unfold layout
  split
  · exact packAux_bound hP dims hne hp
  · have hd : 0 < dims.headD 0 := by
      cases dims with
      | nil => exact absurd rfl hne
      | cons d ds => exact hp d (by simp)
    generalize dims.headD 0 = d at hd
    split
    · simp only [ext]; omega
    · split
      · simp only [ext]; omega
      · simp only [ext]
        have := pred_mul_add d d hd
        omega

/-- the offset of the last index selected in one dimension lies inside that dimension -/
theorem offset_bound {lo k st s d : Nat} (h : lo + k * st ≤ d - 1) : lo * s + k * (st * s) ≤ (d - 1) * s := by
  rw [← Nat.mul_assoc, ← Nat.add_mul]
  exact Nat.mul_le_mul_right s h

/-- a view obtained by indexing lies inside the view it was taken from -/
theorem sliceAux_bound : ∀ (xs : List Ix) (ds ss : List Nat) {o : Nat} {ds' ss' : List Nat},
    sliceAux xs ds ss = some (o, ds', ss') → o + ext ds' ss' ≤ ext ds ss
  | [], [], [], o, ds', ss', h => by
    simp only [sliceAux, Option.some.injEq, Prod.mk.injEq] at h
    obtain ⟨rfl, rfl, rfl⟩ := h
    simp [ext]
  | [], [], _ :: _, _, _, _, h => by simp [sliceAux] at h
  | [], _ :: _, _, _, _, _, h => by simp [sliceAux] at h
  | _ :: _, [], _, _, _, _, h => by cases ‹Ix› <;> simp [sliceAux] at h
  | _ :: _, _ :: _, [], _, _, _, h => by cases ‹Ix› <;> simp [sliceAux] at h
  | .fix i :: xs, d :: ds, s :: ss, o, ds', ss', h => by
    simp only [sliceAux] at h
    split at h
    · rename_i hi
      cases hr : sliceAux xs ds ss with
      | none => simp [hr] at h
      | some r =>
        obtain ⟨o1, ds1, ss1⟩ := r
        simp only [hr, Option.some.injEq, Prod.mk.injEq] at h
        obtain ⟨rfl, rfl, rfl⟩ := h
        have ih := sliceAux_bound xs ds ss hr
        simp only [ext]
        have := offset_bound (lo := i) (k := 0) (st := 0) (s := s) (d := d) (by omega)
        omega
    · simp at h
  | .rng lo hi st :: xs, d :: ds, s :: ss, o, ds', ss', h => by
    simp only [sliceAux] at h
    split at h
    · rename_i hc
      obtain ⟨h1, h2, h3⟩ := hc
      cases hr : sliceAux xs ds ss with
      | none => simp [hr] at h
      | some r =>
        obtain ⟨o1, ds1, ss1⟩ := r
        simp only [hr, Option.some.injEq, Prod.mk.injEq] at h
        obtain ⟨rfl, rfl, rfl⟩ := h
        have ih := sliceAux_bound xs ds ss hr
        simp only [ext, Nat.add_sub_cancel]
        have e2 : (hi - lo) / st * st ≤ hi - lo := Nat.div_mul_le_self _ _
        have := offset_bound (lo := lo) (k := (hi - lo) / st) (st := st) (s := s) (d := d) (by omega)
        omega
    · split at h
      · rename_i hc
        obtain ⟨h1, h2, h3, h4⟩ := hc
        cases hr : sliceAux xs ds ss with
        | none => simp [hr] at h
        | some r =>
          obtain ⟨o1, ds1, ss1⟩ := r
          simp only [hr, Option.some.injEq, Prod.mk.injEq] at h
          obtain ⟨rfl, rfl, rfl⟩ := h
          have ih := sliceAux_bound xs ds ss hr
          simp only [ext]
          have := offset_bound (lo := lo) (k := 0) (st := st) (s := s) (d := d) (by omega)
          omega
      · simp at h

theorem ext_zeros : ∀ (ds ss : List Nat), ext (ds.map (fun _ => 0)) ss = 0
  | [], _ => by simp [ext]
  | _ :: _, [] => by simp [ext]
  | _ :: ds, _ :: ss => by simp [ext, ext_zeros ds ss]

theorem ext_canon_le (ds ss : List Nat) : ext (canonDims ds) ss ≤ ext ds ss := by
  unfold canonDims
  split
  · rw [ext_zeros]; omega
  · omega

/-- the view the constructor stores (empty selections canonicalised) lies inside the view it was taken from -/
theorem sliceView_bound (xs : List Ix) (ds ss : List Nat) {o : Nat} {ds' ss' : List Nat}
    (h : sliceView xs ds ss = some (o, ds', ss')) : o + ext ds' ss' ≤ ext ds ss := by
  unfold sliceView at h
  cases hr : sliceAux xs ds ss with
  | none => simp [hr] at h
  | some r =>
    obtain ⟨o1, ds1, ss1⟩ := r
    simp only [hr, Option.some.injEq, Prod.mk.injEq] at h
    obtain ⟨rfl, rfl, rfl⟩ := h
    have := sliceAux_bound xs ds ss hr
    have := ext_canon_le ds1 ss1
    omega

end Adept.GradObj
