import AdeptModel.IndexedViews
import AdeptProofs.Lemmas.Views
/-!
Helper lemmas for the integer-vector indexing part of C06 (`AdeptModel/IndexedViews.lean`).  Core Lean only.

An `IndexedArray` translates coordinates on every access, so everything rests on `translateCoords`: it returns the index
map `expandSel` whenever it returns, fails only through the range test of the bounds-checked build, and succeeds with a
valid parent index in both builds when the selectors are admissible (`SelsAdm`).  Whole reads and assignments go through
the enumeration `allIndices` of the elements.
-/
namespace Adept.Views

/-! `checkIdx c len i` is `getIndexWithLen c (.lit i) len` by definition. -/

theorem checkIdx_ok {c : Bool} {len : Nat} {i j : Int} (h : checkIdx c len i = .ok j) :
    j = i ∧ (c = true → 0 ≤ i ∧ i < len) := by
  obtain ⟨rfl, h2⟩ := getIndex_ok (e := .lit i) h
  exact ⟨rfl, h2⟩

theorem checkIdx_err {c : Bool} {len : Nat} {i : Int} {e : Err} (h : checkIdx c len i = .error e) :
    e = .index_out_of_bounds ∧ c = true ∧ ¬ (0 ≤ i ∧ i < len) :=
  getIndex_err (e := .lit i) h

theorem checkIdx_inRange (c : Bool) {len : Nat} {i : Int} (h : 0 ≤ i ∧ i < len) : checkIdx c len i = .ok i :=
  getIndex_of_inRange (e := .lit i) fun _ => h

theorem checkIdx_unchecked (len : Nat) (i : Int) : checkIdx false len i = .ok i :=
  getIndex_of_inRange (e := .lit i) nofun

theorem selValue_range (c : Bool) (d : Nat) (b e st : EndExpr) (j : Int) :
    selValue c d (.range b e st) j =
      (getIndexWithLen c b d >>= fun bi => checkIdx c d (bi + st.resolve d * j)) := rfl

theorem selValue_vec (c : Bool) (d : Nat) (es : List EndExpr) (j : Int) :
    selValue c d (.vec es) j =
      match es[j.toNat]? with
      | some e => checkIdx c d (e.resolve d)
      | none => .error .undefined := rfl

theorem selIndex_vec (d : Nat) (es : List EndExpr) (j : Int) :
    selIndex d (.vec es) j = (es.getD j.toNat (.lit 0)).resolve d := rfl

theorem selValue_ok {c : Bool} {d : Nat} {s : Sel} {j i : Int} (h : selValue c d s j = .ok i) :
    i = selIndex d s j ∧ (c = true → 0 ≤ i ∧ i < d) := by
  cases s with
  | «at» e =>
    obtain ⟨rfl, h2⟩ := checkIdx_ok h
    exact ⟨rfl, h2⟩
  | range b e st =>
    obtain ⟨bi, hb, h⟩ := bind_ok h
    obtain ⟨rfl, _⟩ := getIndex_ok hb
    obtain ⟨rfl, h2⟩ := checkIdx_ok h
    exact ⟨rfl, h2⟩
  | all =>
    obtain ⟨rfl, h2⟩ := checkIdx_ok h
    exact ⟨rfl, h2⟩
  | vec es =>
    rw [selValue_vec] at h
    rw [selIndex_vec, List.getD_eq_getElem?_getD]
    cases he : es[j.toNat]? with
    | none =>
      rw [he] at h
      cases h
    | some e =>
      rw [he] at h
      obtain ⟨rfl, h2⟩ := checkIdx_ok h
      exact ⟨rfl, h2⟩

def selExtent (d : Nat) : Sel → Nat
  | .at _ => 1
  | .range b e s => ((e.resolve d + s.resolve d - b.resolve d).tdiv (s.resolve d)).toNat
  | .all => d
  | .vec es => es.length

theorem selSize_ok {c : Bool} {d n : Nat} {s : Sel} (h : selSize c d s = .ok n) :
    n = selExtent d s ∧
    (match s with
     | .range b e st => st.resolve d ≠ 0 ∧ (n : Int) = (e.resolve d + st.resolve d - b.resolve d).tdiv (st.resolve d) ∧
         (c = true → (0 ≤ b.resolve d ∧ b.resolve d < d) ∧ (0 ≤ e.resolve d ∧ e.resolve d < d))
     | _ => True) := by
  cases s with
  | «at» e => cases h; exact ⟨rfl, trivial⟩
  | all => cases h; exact ⟨rfl, trivial⟩
  | vec es => cases h; exact ⟨rfl, trivial⟩
  | range b e st =>
    obtain ⟨⟨inc, m, o⟩, hr, h⟩ := bind_ok h
    cases h
    obtain ⟨_, _, h3, h4, h5⟩ := updateRange_ok hr
    refine ⟨?_, h3, h4, h5⟩
    show n = ((e.resolve d + st.resolve d - b.resolve d).tdiv (st.resolve d)).toNat
    omega

theorem selExtents_cons {d : Nat} {ds : List Nat} {s : Sel} {ss : List Sel} (hs : ∀ e, s ≠ .at e) :
    selExtents (d :: ds) (s :: ss) = selExtent d s :: selExtents ds ss := by
  cases s with
  | «at» e => exact absurd rfl (hs e)
  | _ => rfl

theorem nonScalarCount_cons {s : Sel} {ss : List Sel} (hs : ∀ e, s ≠ .at e) :
    nonScalarCount (s :: ss) = nonScalarCount ss + 1 := by
  cases s with
  | «at» e => exact absurd rfl (hs e)
  | _ => rfl

theorem ixDims_ok (c : Bool) : ∀ (ds : List Nat) (ss : List Sel) (dims : List Nat), ixDims c ds ss = .ok dims →
    dims = selExtents ds ss ∧ dims.length = nonScalarCount ss ∧ ss.length = ds.length := by
  intro ds ss
  fun_induction ixDims c ds ss with
  | case1 =>
    intro dims h
    cases h
    exact ⟨rfl, rfl, rfl⟩
  | case2 d ds e ss ih =>
    intro dims h
    obtain ⟨h1, h2, h3⟩ := ih dims h
    exact ⟨h1, h2, congrArg (· + 1) h3⟩
  | case3 d ds s ss hs ih =>
    intro dims h
    obtain ⟨n, h1, h⟩ := bind_ok h
    obtain ⟨rest, h2, h⟩ := bind_ok h
    cases h
    obtain ⟨i1, i2, i3⟩ := ih rest h2
    rw [selExtents_cons hs, nonScalarCount_cons hs, ← i1, ← (selSize_ok h1).1]
    exact ⟨rfl, congrArg (· + 1) i2, congrArg (· + 1) i3⟩
  | case4 => nofun


theorem translateCoords_at {c : Bool} {d : Nat} {ds : List Nat} {e : EndExpr} {ss : List Sel} {ix : List Int} :
    translateCoords c (d :: ds) (.at e :: ss) ix =
      (do let i ← selValue c d (.at e) 0; let r ← translateCoords c ds ss ix; .ok (i :: r)) := rfl

theorem translateCoords_cons {c : Bool} {d : Nat} {ds : List Nat} {s : Sel} {ss : List Sel} {j : Int} {ix : List Int}
    (hs : ∀ e, s ≠ .at e) :
    translateCoords c (d :: ds) (s :: ss) (j :: ix) =
      (do let i ← selValue c d s j; let r ← translateCoords c ds ss ix; .ok (i :: r)) := by
  cases s with
  | «at» e => exact absurd rfl (hs e)
  | _ => rfl

theorem expandSel_at {d : Nat} {ds : List Nat} {e : EndExpr} {ss : List Sel} {ix : List Int} :
    expandSel (d :: ds) (.at e :: ss) ix = selIndex d (.at e) 0 :: expandSel ds ss ix := rfl

theorem expandSel_cons {d : Nat} {ds : List Nat} {s : Sel} {ss : List Sel} {j : Int} {ix : List Int}
    (hs : ∀ e, s ≠ .at e) :
    expandSel (d :: ds) (s :: ss) (j :: ix) = selIndex d s j :: expandSel ds ss ix := by
  cases s with
  | «at» e => exact absurd rfl (hs e)
  | _ => rfl

theorem translateCoords_ok (c : Bool) : ∀ (ds : List Nat) (ss : List Sel) (ix r : List Int),
    translateCoords c ds ss ix = .ok r →
    r = expandSel ds ss ix ∧ r.length = ds.length ∧ (c = true → InRange r ds) := by
  intro ds ss ix
  fun_induction translateCoords c ds ss ix with
  | case1 =>
    intro r h
    cases h
    exact ⟨rfl, rfl, fun _ => trivial⟩
  | case2 d ds e ss ix ih =>
    intro r h
    obtain ⟨i, h1, h⟩ := bind_ok h
    obtain ⟨r', h2, h⟩ := bind_ok h
    cases h
    obtain ⟨rfl, a2⟩ := selValue_ok h1
    obtain ⟨rfl, b2, b3⟩ := ih r' h2
    exact ⟨rfl, congrArg (· + 1) b2, fun hc => ⟨a2 hc, b3 hc⟩⟩
  | case3 d ds s ss j ix hs ih =>
    intro r h
    obtain ⟨i, h1, h⟩ := bind_ok h
    obtain ⟨r', h2, h⟩ := bind_ok h
    cases h
    obtain ⟨rfl, a2⟩ := selValue_ok h1
    obtain ⟨rfl, b2, b3⟩ := ih r' h2
    exact ⟨(expandSel_cons hs).symm, congrArg (· + 1) b2, fun hc => ⟨a2 hc, b3 hc⟩⟩
  | case4 => nofun

theorem expandSel_length (c : Bool) : ∀ (ds : List Nat) (ss : List Sel) (dims : List Nat) (ix : List Int),
    ixDims c ds ss = .ok dims → ix.length = dims.length → (expandSel ds ss ix).length = ds.length := by
  intro ds ss
  fun_induction ixDims c ds ss with
  | case1 => exact fun _ _ _ _ => rfl
  | case2 _ ds _ ss ih => exact fun dims ix hd hl => congrArg (· + 1) (ih dims ix hd hl)
  | case3 d ds s ss hs ih =>
    intro dims ix hd hl
    obtain ⟨n, _, hd⟩ := bind_ok hd
    obtain ⟨rest, g2, hd⟩ := bind_ok hd
    cases hd
    cases ix with
    | nil => cases hl
    | cons j ix =>
      rw [expandSel_cons hs]
      exact congrArg (· + 1) (ih rest ix g2 (Nat.succ.inj hl))
  | case4 => nofun

theorem InRange_nonneg : ∀ {ix : List Int} {ds : List Nat}, InRange ix ds → ∀ j ∈ ix, 0 ≤ j
  | [], [], _ => nofun
  | _ :: _, _ :: _, h => List.forall_mem_cons.mpr ⟨h.1.1, InRange_nonneg h.2⟩
  | [], _ :: _, h => h.elim
  | _ :: _, [], h => h.elim

/-- value number `j < size` of an index object can only fail the range test (`.undefined` is not reached) -/
theorem selValue_total {c : Bool} {d n : Nat} {s : Sel} {j : Int} (hn : selSize c d s = .ok n)
    (hj : 0 ≤ j ∧ j < n) :
    (∃ i, selValue c d s j = .ok i) ∨ (c = true ∧ selValue c d s j = .error .index_out_of_bounds) := by
  cases hv : selValue c d s j with
  | ok i => exact Or.inl ⟨i, rfl⟩
  | error x =>
    right
    cases s with
    | «at» e =>
      obtain ⟨rfl, hc, _⟩ := checkIdx_err hv
      exact ⟨hc, rfl⟩
    | all =>
      obtain ⟨rfl, hc, _⟩ := checkIdx_err hv
      exact ⟨hc, rfl⟩
    | range b e st =>
      cases hb : getIndexWithLen c b d with
      | error y =>
        obtain ⟨rfl, hc, _⟩ := getIndex_err hb
        rw [selValue_range, hb] at hv
        cases hv
        exact ⟨hc, rfl⟩
      | ok bi =>
        rw [selValue_range, hb] at hv
        obtain ⟨rfl, hc, _⟩ := checkIdx_err hv
        exact ⟨hc, rfl⟩
    | vec es =>
      cases hn
      rw [selValue_vec, List.getElem?_eq_getElem (show j.toNat < es.length by omega)] at hv
      obtain ⟨rfl, hc, _⟩ := checkIdx_err hv
      exact ⟨hc, rfl⟩

theorem translateCoords_err (c : Bool) : ∀ (ds : List Nat) (ss : List Sel) (dims : List Nat) (ix : List Int) (x : Err),
    ixDims c ds ss = .ok dims → InRange ix dims → translateCoords c ds ss ix = .error x →
    c = true ∧ x = .index_out_of_bounds := by
  intro ds ss
  fun_induction ixDims c ds ss with
  | case1 =>
    intro dims ix x hd hix h
    cases hd
    cases ix with
    | nil => cases h
    | cons j ix => exact hix.elim
  | case2 d ds e ss ih =>
    intro dims ix x hd hix h
    rw [translateCoords_at] at h
    cases h1 : selValue c d (.at e) 0 with
    | error y =>
      rw [h1] at h
      cases h
      obtain ⟨rfl, hc, _⟩ := checkIdx_err h1
      exact ⟨hc, rfl⟩
    | ok i =>
      rw [h1] at h
      cases h2 : translateCoords c ds ss ix with
      | error y =>
        rw [h2] at h
        cases h
        exact ih dims ix _ hd hix h2
      | ok r' =>
        rw [h2] at h
        cases h
  | case3 d ds s ss hs ih =>
    intro dims ix x hd hix h
    obtain ⟨n, g1, hd⟩ := bind_ok hd
    obtain ⟨rest, g2, hd⟩ := bind_ok hd
    cases hd
    cases ix with
    | nil => exact hix.elim
    | cons j ix =>
      rw [translateCoords_cons hs] at h
      cases h1 : selValue c d s j with
      | error y =>
        rw [h1] at h
        cases h
        rcases selValue_total g1 hix.1 with ⟨i, hi⟩ | ⟨hc, he⟩
        · cases hi.symm.trans h1
        · cases he.symm.trans h1
          exact ⟨hc, rfl⟩
      | ok i =>
        rw [h1] at h
        cases h2 : translateCoords c ds ss ix with
        | error y =>
          rw [h2] at h
          cases h
          exact ih rest ix _ g2 hix.2 h2
        | ok r' =>
          rw [h2] at h
          cases h
  | case4 => nofun


/-- the values selector `s` can produce for a dimension of extent `d` are valid indices: scalar index,
    range end points and every index-vector entry (after resolving `end`) lie in `0 … d-1` -/
def SelAdm (d : Nat) : Sel → Prop
  | .at e => 0 ≤ e.resolve d ∧ e.resolve d < d
  | .range b e _ => (0 ≤ b.resolve d ∧ b.resolve d < d) ∧ (0 ≤ e.resolve d ∧ e.resolve d < d)
  | .all => True
  | .vec es => ∀ e ∈ es, 0 ≤ e.resolve d ∧ e.resolve d < d

def SelsAdm : List Nat → List Sel → Prop
  | d :: ds, s :: ss => SelAdm d s ∧ SelsAdm ds ss
  | _, _ => True

theorem selValue_adm {c : Bool} {d n : Nat} {s : Sel} {j : Int} (hadm : SelAdm d s) (hn : selSize c d s = .ok n)
    (hj : 0 ≤ j ∧ j < n) :
    selValue c d s j = .ok (selIndex d s j) ∧ 0 ≤ selIndex d s j ∧ selIndex d s j < d := by
  cases s with
  | «at» e => exact ⟨checkIdx_inRange c hadm, hadm⟩
  | all =>
    cases hn
    exact ⟨checkIdx_inRange c hj, hj⟩
  | range b e st =>
    obtain ⟨_, hs, hnn, _⟩ := selSize_ok hn
    have hr := range_elem_inRange hadm.1 hadm.2 hs hnn hj.1 hj.2
    rw [Int.mul_comm] at hr
    refine ⟨?_, hr⟩
    rw [selValue_range, getIndex_of_inRange fun _ => hadm.1]
    exact checkIdx_inRange c hr
  | vec es =>
    cases hn
    have hlt : j.toNat < es.length := by omega
    have := hadm _ (List.getElem_mem hlt)
    rw [selValue_vec, selIndex_vec, List.getD_eq_getElem?_getD, List.getElem?_eq_getElem hlt]
    exact ⟨checkIdx_inRange c this, this⟩

theorem translateCoords_adm (c : Bool) : ∀ (ds : List Nat) (ss : List Sel) (dims : List Nat) (ix : List Int),
    SelsAdm ds ss → ixDims c ds ss = .ok dims → InRange ix dims →
    translateCoords c ds ss ix = .ok (expandSel ds ss ix) ∧ InRange (expandSel ds ss ix) ds := by
  intro ds ss
  fun_induction ixDims c ds ss with
  | case1 =>
    intro dims ix _ hd hix
    cases hd
    cases ix with
    | nil => exact ⟨rfl, trivial⟩
    | cons j ix => exact hix.elim
  | case2 d ds e ss ih =>
    intro dims ix hadm hd hix
    obtain ⟨i1, i2⟩ := ih dims ix hadm.2 hd hix
    have hv := selValue_adm (c := c) (n := 1) (j := 0) hadm.1 rfl (by omega)
    rw [translateCoords_at, expandSel_at, hv.1, i1]
    exact ⟨rfl, hv.2, i2⟩
  | case3 d ds s ss hs ih =>
    intro dims ix hadm hd hix
    obtain ⟨n, g1, hd⟩ := bind_ok hd
    obtain ⟨rest, g2, hd⟩ := bind_ok hd
    cases hd
    cases ix with
    | nil => exact hix.elim
    | cons j ix =>
      obtain ⟨i1, i2⟩ := ih rest ix hadm.2 g2 hix.2
      have hv := selValue_adm hadm.1 g1 hix.1
      rw [translateCoords_cons hs, expandSel_cons hs, hv.1, i1]
      exact ⟨rfl, hv.2, i2⟩
  | case4 => nofun

theorem translateCoords_unchecked (ds : List Nat) (ss : List Sel) (dims : List Nat) (ix : List Int)
    (hd : ixDims false ds ss = .ok dims) (hix : InRange ix dims) :
    translateCoords false ds ss ix = .ok (expandSel ds ss ix) := by
  cases h : translateCoords false ds ss ix with
  | ok r =>
    obtain ⟨h1, _⟩ := translateCoords_ok false ds ss ix r h
    rw [h1]
  | error x =>
    have := (translateCoords_err false ds ss dims ix x hd hix h).1
    cases this

theorem exists_inRange : ∀ (dims : List Nat), (∀ n ∈ dims, n ≠ 0) → ∃ ix, InRange ix dims := by
  intro dims
  induction dims with
  | nil => intro _; exact ⟨[], trivial⟩
  | cons n dims ih =>
    intro h
    obtain ⟨ix, hix⟩ := ih (fun m hm => h m (by simp [hm]))
    have := h n (by simp)
    exact ⟨0 :: ix, ⟨by omega, by omega⟩, hix⟩

/-- checked build, constructor passed, no zero extent: if some scalar index or index-vector entry is
    outside its dimension, some element of the indexed array denotes an index outside the parent -/
theorem exists_oob_index : ∀ (ds : List Nat) (ss : List Sel) (dims : List Nat),
    ixDims true ds ss = .ok dims → (∀ n ∈ dims, n ≠ 0) → ¬ SelsAdm ds ss →
    ∃ ix, InRange ix dims ∧ ¬ InRange (expandSel ds ss ix) ds := by
  intro ds ss
  fun_induction ixDims true ds ss with
  | case1 => exact fun _ _ _ hadm => absurd trivial hadm
  | case2 d ds e ss ih =>
    intro dims hd hnz hadm
    by_cases ha : SelAdm d (.at e)
    · obtain ⟨ix, h1, h2⟩ := ih dims hd hnz fun hb => hadm ⟨ha, hb⟩
      exact ⟨ix, h1, fun h => h2 h.2⟩
    · obtain ⟨ix, h1⟩ := exists_inRange dims hnz
      exact ⟨ix, h1, fun h => ha h.1⟩
  | case3 d ds s ss hs ih =>
    intro dims hd hnz hadm
    obtain ⟨n, g1, hd⟩ := bind_ok hd
    obtain ⟨rest, g2, hd⟩ := bind_ok hd
    cases hd
    have hn : n ≠ 0 := hnz n List.mem_cons_self
    have hnz' : ∀ m ∈ rest, m ≠ 0 := fun m hm => hnz m (List.mem_cons_of_mem _ hm)
    by_cases ha : SelAdm d s
    · obtain ⟨ix, h1, h2⟩ := ih rest g2 hnz' fun hb => hadm ⟨ha, hb⟩
      refine ⟨0 :: ix, ⟨⟨Int.le_refl 0, by omega⟩, h1⟩, ?_⟩
      rw [expandSel_cons hs]
      exact fun h => h2 h.2
    · obtain ⟨ix, h1⟩ := exists_inRange rest hnz'
      cases s with
      | «at» e => exact absurd rfl (hs e)
      | all => exact absurd trivial ha
      | range b e st => exact absurd ((selSize_ok g1).2.2.2 rfl) ha
      | vec es =>
        cases g1
        -- some entry of the index vector is outside the dimension: the element that uses it
        have : ∃ e ∈ es, ¬ (0 ≤ e.resolve d ∧ e.resolve d < d) :=
          Decidable.by_contra fun hcon => ha fun e he => Decidable.by_contra fun hbad => hcon ⟨e, he, hbad⟩
        obtain ⟨e, he, hbad⟩ := this
        obtain ⟨j, hj, rfl⟩ := List.mem_iff_getElem.mp he
        refine ⟨(j : Int) :: ix, ⟨⟨by omega, by omega⟩, h1⟩, fun h => hbad ?_⟩
        have h0 := h.1
        rw [selIndex_vec, Int.toNat_natCast, List.getD_eq_getElem?_getD, List.getElem?_eq_getElem hj] at h0
        exact h0
  | case4 => nofun

theorem ixAddr_ok {c : Bool} {iv : IView} {ix : List Int} {a : Int} (h : ixAddr c iv ix = .ok a) :
    ∃ r, translateCoords c iv.parent.dims iv.sels ix = .ok r ∧ a = addr iv.parent r := by
  obtain ⟨r, hr, h⟩ := bind_ok h
  cases h
  exact ⟨r, hr, rfl⟩

theorem ixAddr_ok_expand {c : Bool} {iv : IView} {ix : List Int} {a : Int}
    (h : ixAddr c iv ix = .ok a) :
    a = addr iv.parent (expandSel iv.parent.dims iv.sels ix) ∧
      (c = true → InRange (expandSel iv.parent.dims iv.sels ix) iv.parent.dims) := by
  obtain ⟨r, hr, rfl⟩ := ixAddr_ok h
  obtain ⟨rfl, _, h3⟩ := translateCoords_ok c _ _ _ _ hr
  exact ⟨rfl, h3⟩

theorem ixAddr_err {c : Bool} {iv : IView} {ix : List Int} {e : Err} (h : ixAddr c iv ix = .error e) :
    translateCoords c iv.parent.dims iv.sels ix = .error e := by
  unfold ixAddr at h
  cases hr : translateCoords c iv.parent.dims iv.sels ix with
  | error x =>
    rw [hr] at h
    cases h
    rfl
  | ok r =>
    rw [hr] at h
    cases h

theorem storesGo_mem (c : Bool) (iv : IView) : ∀ (ixs : List (List Int)) (xs : List Int) (st : List (Int × Int)) (e : Option Err),
    storesGo c iv ixs xs = (st, e) → ∀ p ∈ st, ∃ ix ∈ ixs, ixAddr c iv ix = .ok p.1 := by
  intro ixs xs
  fun_induction storesGo c iv ixs xs with
  | case1 ix ixs x xs a ha st' e' hr ih =>
    intro st e h p hp
    cases h
    rcases List.mem_cons.mp hp with rfl | hp
    · exact ⟨ix, List.mem_cons_self, ha⟩
    · obtain ⟨ix', h1, h2⟩ := ih st' e' hr p hp
      exact ⟨ix', List.mem_cons_of_mem _ h1, h2⟩
  | case2 =>
    intro st e h
    cases h
    nofun
  | case3 =>
    intro st e h
    cases h
    nofun

theorem storesGo_total (c : Bool) (iv : IView) (f : List Int → Int) : ∀ (ixs : List (List Int)) (xs : List Int),
    (∀ ix ∈ ixs, ixAddr c iv ix = .ok (f ix)) → xs.length = ixs.length →
    storesGo c iv ixs xs = ((ixs.map f).zip xs, none) := by
  intro ixs xs
  fun_induction storesGo c iv ixs xs with
  | case1 ix ixs x xs a ha st' e' hr ih =>
    intro h hl
    obtain ⟨rfl, rfl⟩ := Prod.mk.inj
      (hr.symm.trans (ih (fun i hi => h i (List.mem_cons_of_mem _ hi)) (Nat.succ.inj hl)))
    cases ha.symm.trans (h ix List.mem_cons_self)
    rfl
  | case2 ix ixs x xs e he =>
    intro h _
    cases he.symm.trans (h ix List.mem_cons_self)
  | case3 ixs xs hne =>
    intro _ hl
    cases ixs with
    | nil => rfl
    | cons ix ixs =>
      cases xs with
      | nil => cases hl
      | cons x xs => exact (hne ix ixs x xs rfl rfl).elim

theorem storesGo_err (c : Bool) (iv : IView) (E : Err) : ∀ (ixs : List (List Int)) (xs : List Int),
    (∃ ix ∈ ixs, ∃ e, ixAddr c iv ix = .error e) → (∀ ix ∈ ixs, ∀ e, ixAddr c iv ix = .error e → e = E) →
    ixs.length ≤ xs.length → (storesGo c iv ixs xs).2 = some E := by
  intro ixs xs
  fun_induction storesGo c iv ixs xs with
  | case1 ix ixs x xs a ha st' e' hr ih =>
    intro ⟨z, hz, e, he⟩ hall hl
    rcases List.mem_cons.mp hz with rfl | hz
    · cases ha.symm.trans he
    · have := ih ⟨z, hz, e, he⟩ (fun w hw => hall w (List.mem_cons_of_mem _ hw)) (Nat.le_of_succ_le_succ hl)
      rw [hr] at this
      exact this
  | case2 ix ixs x xs e he =>
    intro _ hall _
    exact congrArg some (hall ix List.mem_cons_self e he)
  | case3 ixs xs hne =>
    intro ⟨z, hz, _⟩ _ hl
    cases ixs with
    | nil => cases hz
    | cons ix ixs =>
      cases xs with
      | nil => cases hl
      | cons x xs => exact (hne ix ixs x xs rfl rfl).elim

theorem applyStores_other : ∀ (st : List (Int × Int)) (mem : Int → Int) (a : Int),
    (∀ p ∈ st, p.1 ≠ a) → applyStores mem st a = mem a := by
  intro st
  induction st with
  | nil => intro mem a _; rfl
  | cons p st ih =>
    intro mem a h
    obtain ⟨c, x⟩ := p
    simp only [applyStores]
    rw [ih _ a (fun q hq => h q (by simp [hq]))]
    have : a ≠ c := fun hac => h (c, x) (by simp) hac.symm
    simp [this]

theorem applyStores_mem : ∀ (st : List (Int × Int)) (mem : Int → Int) (a : Int),
    (∃ p ∈ st, p.1 = a) → ∃ p ∈ st, p.1 = a ∧ applyStores mem st a = p.2 := by
  intro st
  induction st with
  | nil => intro mem a h; simp at h
  | cons p st ih =>
    intro mem a h
    obtain ⟨c, x⟩ := p
    simp only [applyStores]
    by_cases hlater : ∃ q ∈ st, q.1 = a
    · obtain ⟨q, hq, h1, h2⟩ := ih (fun b => if b = c then x else mem b) a hlater
      exact ⟨q, by simp [hq], h1, h2⟩
    · have hnone : ∀ q ∈ st, q.1 ≠ a := fun q hq hqa => hlater ⟨q, hq, hqa⟩
      rw [applyStores_other st _ a hnone]
      obtain ⟨q, hq, hqa⟩ := h
      simp only [List.mem_cons] at hq
      rcases hq with hq | hq
      · subst hq
        simp only at hqa
        subst hqa
        exact ⟨(c, x), by simp, rfl, by simp⟩
      · exact absurd hqa (hnone q hq)

theorem indexed_ok {v : View} {sels : List Sel} {c : Bool} {iv : IView} (h : indexed v sels c = .ok iv) :
    sels.any Sel.isVec = true ∧ ixDims c v.dims sels = .ok iv.dims ∧ iv.parent = v ∧ iv.sels = sels := by
  unfold indexed at h
  split at h
  · cases h
  · rename_i hv
    obtain ⟨dims, hd, h⟩ := bind_ok h
    cases h
    exact ⟨Decidable.not_not.mp hv, hd, rfl, rfl⟩

theorem isEmpty_false {iv : IView} (h : iv.isEmpty = false) : ∀ n ∈ iv.dims, n ≠ 0 := by
  intro n hn h0
  subst h0
  have : iv.isEmpty = true := by
    simp only [IView.isEmpty, List.any_eq_true]
    exact ⟨0, hn, by simp⟩
  rw [h] at this
  cases this

theorem mapM_ok_of_forall {α β : Type} (f : α → Except Err β) (g : α → β) : ∀ (l : List α),
    (∀ x ∈ l, f x = .ok (g x)) → l.mapM f = .ok (l.map g) := by
  intro l
  induction l with
  | nil => intro _; rfl
  | cons x l ih =>
    intro h
    rw [List.mapM_cons, h x (by simp), ih (fun y hy => h y (by simp [hy]))]
    rfl

theorem mapM_err_of_exists {α β : Type} (f : α → Except Err β) (E : Err) : ∀ (l : List α),
    (∃ x ∈ l, ∃ e, f x = .error e) → (∀ x ∈ l, ∀ e, f x = .error e → e = E) → l.mapM f = .error E := by
  intro l
  induction l with
  | nil => intro h _; simp at h
  | cons x l ih =>
    intro h hall
    rw [List.mapM_cons]
    cases hx : f x with
    | error e =>
      have := hall x (by simp) e hx
      subst this
      rfl
    | ok y =>
      obtain ⟨z, hz, e, he⟩ := h
      simp only [List.mem_cons] at hz
      rcases hz with rfl | hz
      · rw [hx] at he; cases he
      · rw [ih ⟨z, hz, e, he⟩ (fun w hw => hall w (by simp [hw]))]
        rfl

/-- decidable equality of read results (for the concrete examples in `Props/C06.lean`) -/
instance instDecEqReadResult : DecidableEq (Except Err (List Int))
  | .ok a, .ok b => if h : a = b then isTrue (by rw [h]) else isFalse (by intro h'; cases h'; exact h rfl)
  | .error a, .error b => if h : a = b then isTrue (by rw [h]) else isFalse (by intro h'; cases h'; exact h rfl)
  | .ok _, .error _ => isFalse (by intro h; cases h)
  | .error _, .ok _ => isFalse (by intro h; cases h)


end Adept.Views
