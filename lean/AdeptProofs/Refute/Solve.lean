import AdeptProofs.Lemmas.Solve
import AdeptProofs.Lemmas.LapackInstance
/-!
# F-21 — the pinned fallback of the symmetric vector `solve` breaks "singular ⇒ matrix_ill_conditioned"

`solveSymVecPinned` (AdeptModel/Solve.lean) is the pinned source: after a failed `?sysv` it calls
`solve(Array<2,T,false>(A_), b_)`, reading the matrix back from the buffer `?sysv` has overwritten.
The LAPACK contract says nothing about that buffer after a failure, so for EVERY contract-abiding LAPACK `L`
there is another one (`scribble L`: identical, except that a failing `?sysv` leaves the identity matrix in
`A`) under which EVERY exactly singular symmetric system gets a value back instead of an exception.
Observed with the reference LAPACK too (`[[1,1],[1,1]] x = [1,2]` returns `{1,1}`): known_findings F-21.
`solveSymVec`, for which `C16_singular_raises` holds, is the form with fixes/F-21.patch applied.
-/
namespace Adept.Solve
open Adept.Lapack

variable {K : Type} [Field K]

/-- the identity matrix as an `n × n` buffer (row- or column-major alike) -/
def idBuf (n : Nat) : Buf K := fun k => if k / n = k % n then 1 else 0

/-- `L`, except that a failing `?sysv` leaves the identity in `A` (allowed: the contents of `A` after
    `info > 0` are "details of the factorisation") -/
def scribble (L : Impl K) : Impl K :=
  { L with sysv := fun u n nrhs a lda b ldb =>
      if (L.sysv u n nrhs a lda b ldb).info = 0 then L.sysv u n nrhs a lda b ldb
      else { L.sysv u n nrhs a lda b ldb with a := idBuf n } }

theorem scribble_info (L : Impl K) (u : Uplo) (n nrhs : Nat) (a : Buf K) (lda : Nat) (b : Buf K) (ldb : Nat) :
    ((scribble L).sysv u n nrhs a lda b ldb).info = (L.sysv u n nrhs a lda b ldb).info := by
  simp only [scribble]; split <;> rfl

theorem scribble_b (L : Impl K) (u : Uplo) (n nrhs : Nat) (a : Buf K) (lda : Nat) (b : Buf K) (ldb : Nat) :
    ((scribble L).sysv u n nrhs a lda b ldb).b = (L.sysv u n nrhs a lda b ldb).b := by
  simp only [scribble]; split <;> rfl

theorem scribble_a (L : Impl K) (u : Uplo) (n nrhs : Nat) (a : Buf K) (lda : Nat) (b : Buf K) (ldb : Nat)
    (h : (L.sysv u n nrhs a lda b ldb).info ≠ 0) : ((scribble L).sysv u n nrhs a lda b ldb).a = idBuf n := by
  simp only [scribble, h, if_false]

theorem scribble_contract (L : Impl K) (hL : Contract L) : Contract (scribble L) where
  gesv_ok := hL.gesv_ok
  gesv_sing := hL.gesv_sing
  gesv_reg := hL.gesv_reg
  sysv_ok u n nrhs a lda b ldb ha hb h0 := by
    rw [scribble_info] at h0
    rw [scribble_b]
    exact hL.sysv_ok u n nrhs a lda b ldb ha hb h0
  sysv_sing u n nrhs a lda b ldb ha hb hs := by
    rw [scribble_info]; exact hL.sysv_sing u n nrhs a lda b ldb ha hb hs
  sysv_reg u n nrhs a lda b ldb ha hb hs := by
    rw [scribble_info]; exact hL.sysv_reg u n nrhs a lda b ldb ha hb hs
  getrf_sing := hL.getrf_sing
  getrf_reg := hL.getrf_reg
  getri_ok := hL.getri_ok
  sytrf_sing := hL.sytrf_sing
  sytrf_reg := hL.sytrf_reg
  sytri_ok := hL.sytri_ok

theorem idBuf_colMajor {n i j : Nat} (hi : i < n) : (idBuf n : Buf K) (i + j * n) = delta i j := by
  simp only [idBuf, add_mul_div_of_lt hi, add_mul_mod_of_lt hi, delta, eq_comm]

theorem idBuf_sym (o : Orient) (n : Nat) {i j : Nat} (hi : i < n) (hj : j < n) :
    (Sym.ofStorage o n 0 n (idBuf n : Buf K)).get i j = delta i j := by
  rw [ofStorage_syMat, syMat_eq]
  split
  · exact idBuf_colMajor hi
  · rw [idBuf_colMajor hj]
    simp only [delta, eq_comm]

theorem identity_regular (n : Nat) : ¬ Singular n (fun i j => (delta i j : K)) := by
  rintro ⟨v, ⟨j, hj, hvj⟩, hk⟩
  apply hvj
  have := hk j hj
  rw [sumTo_eq_sum] at this
  rw [← this]
  simp only [delta]
  rw [Finset.sum_eq_single (⟨j, hj⟩ : Fin n)]
  · simp
  · intro b _ hb
    have : ¬ j = b.val := fun h => hb (Fin.ext h.symm)
    simp [this]
  · intro h; exact absurd (Finset.mem_univ _) h

omit [Field K] in
theorem solveSymVecPinned_res (L : Impl K) (h : Heap K) (S : Sym K) (b : Vec K) :
    (solveSymVecPinned L h S b).res =
      let r := L.sysv (uploOf S.orient) S.n 1 (fillSym S (h.mem h.next)) S.n (fillVec b (h.mem (h.next + 1))) b.n
      let h5 := sysvHeap h S b r
      if r.info ≠ 0
      then (solveGenVec L (densify h5 (Sym.ofStorage S.orient S.n 0 S.n r.a).toMat).1
        (densify h5 (Sym.ofStorage S.orient S.n 0 S.n r.a).toMat).2 { n := b.n, get := r.b }).res
      else .ok { n := b.n, get := r.b } := by
  simp only [solveSymVecPinned, sysvHeap, Heap.alloc, Heap.next_store, Heap.mem_store_self, Heap.mem_store_succ,
    Heap.mem_succ_store, apply_ite Out.res]

/-- **Refutation of the full-strength statement for the pinned source.**  Under the contract-abiding LAPACK
    `scribble L`, the pinned symmetric vector `solve` returns a value for EVERY exactly singular symmetric
    system (of either orientation, any size, any right-hand side): `singular ⇒ matrix_ill_conditioned` fails. -/
theorem F21_pinned_singular_returns_value (L : Impl K) (hL : Contract L) (h : Heap K) (S : Sym K) (b : Vec K)
    (hsym : ∀ i j, S.get i j = S.get j i) (hb : b.n = S.n) (hs : Singular S.n S.get) :
    Contract (scribble L) ∧ ∃ x, (solveSymVecPinned (scribble L) h S b).res = .ok x := by
  refine ⟨scribble_contract L hL, ?_⟩
  have hA := fun i j => fillSym_syMat S (h.mem h.next) hsym (i := i) (j := j)
  have hne : (L.sysv (uploOf S.orient) S.n 1 (fillSym S (h.mem h.next)) S.n
      (fillVec b (h.mem (h.next + 1))) b.n).info ≠ 0 :=
    Int.ne_of_gt (hL.sysv_sing _ _ _ _ _ _ _ (Nat.le_refl _) (Nat.le_of_eq hb.symm) ((singular_iff_congr hA).2 hs))
  have hres := solveSymVecPinned_res (scribble L) h S b
  dsimp only at hres
  rw [scribble_info, if_pos hne, scribble_a L _ _ _ _ _ _ _ hne] at hres
  rw [hres]
  -- the second attempt sees the identity, which is regular
  refine (solveGenVec_spec (scribble L) (scribble_contract L hL) _ _ _ ?_ ?_).2.2.1 fun hsing =>
    identity_regular S.n (singular_congr
      (fun i j hi hj => (densify_get _ _ hi hj).trans (idBuf_sym S.orient S.n hi hj)) hsing)
  · exact (densify_agrees _ _).square (Sym.toMat_square _)
  · show b.n = S.n
    exact hb

/-- the hypotheses are met: `[[1,1],[1,1]]` stored as a `ROW_LOWER_COL_UPPER` `SymmMatrix` (unused element
    poisoned) is symmetric and exactly singular, and a contract-abiding LAPACK exists over `ℚ` -/
example : ∃ (L : Impl ℚ) (S : Sym ℚ) (b : Vec ℚ), Contract L ∧ Singular S.n S.get ∧ b.n = S.n ∧
    ∃ x, (solveSymVecPinned L ⟨0, fun _ _ => 0⟩ S b).res = .ok x := by
  obtain ⟨hc, hx⟩ := F21_pinned_singular_returns_value (classicalImpl ℚ) (classicalImpl_contract ℚ)
    ⟨0, fun _ _ => 0⟩ (Sym.ofStorage .rowLower 2 0 2 (fun k => [1, 777, 1, 1].getD k 0))
    { n := 2, get := fun i => [1, 2].getD i 0 } (Sym.ofStorage_symm _ _ _ _ _) rfl singular_ones
  exact ⟨_, _, _, hc, singular_ones, rfl, hx⟩

end Adept.Solve
