import AdeptProofs.Props.C02
import AdeptProofs.Props.C13
/-!
# C02 / C13 — what is NOT true operation for operation (machine-checked witnesses)

`AdeptProofs/Props/C02.lean` and `C13.lean` prove a law-free layer: equalities that hold for every carrier with `+ * 0 1`
and every zero test.  Two clauses of C02 are not in that layer; this file refutes their law-free form on concrete
witnesses evaluated by the kernel (`decide`), over two small carriers that keep one feature of IEEE arithmetic each:

* `Fix1` — fixed point with one binary digit, products TRUNCATED to the grid (a miniature of rounding): `*` is
  commutative, has the unit `1`, `+` is exact, but `*` is not associative.  Forward and reverse Jacobians of a chain of
  three multiplications differ (`(c·(b·a))` against `(a·(b·c))`), as they differ in the last bit on doubles.
* `Abs3` — `0`, `1` and an absorbing element `n` with `n * 0 = n` (as `Inf * 0 = NaN`).  The blocked reverse routine
  (`W = 2`) returns `n` for an entry for which the unit-seeded adjoint pass and the unblocked routine (`W = 1`) return `1`:
  the lane of `y₁` executes `+= n*0` because the lane of `y₂` in the same block is non-zero.  checks/c02.py runs the same
  recording (multiplier `Inf`) against the real library and observes exactly this (`NaN` against `1`).

The same carriers serve as non-vacuity instances of the law-free theorems: they apply where no ring law holds.
-/
namespace Adept.Tape

/-- twice the value; products truncated to the half-integer grid -/
structure Fix1 where
  v : Int
deriving DecidableEq, Repr

instance : Add Fix1 := ⟨fun a b => ⟨a.v + b.v⟩⟩
instance : Mul Fix1 := ⟨fun a b => ⟨(a.v * b.v) / 2⟩⟩
instance : Zero Fix1 := ⟨⟨0⟩⟩
instance : One Fix1 := ⟨⟨2⟩⟩

/-- `*` on `Fix1` is not associative: (2.5 · 1.5) · 3.5 = 12 but 2.5 · (1.5 · 3.5) = 12.5 -/
example : ((⟨5⟩ : Fix1) * ⟨3⟩) * ⟨7⟩ ≠ ⟨5⟩ * ((⟨3⟩ : Fix1) * ⟨7⟩) := by decide

/-- `u = 2.5 x; v = 1.5 u; y = 3.5 v` (slots 0 1 2 3) -/
def chain3 : List (Stmt Fix1) := [⟨1, [(⟨5⟩, 0)]⟩, ⟨2, [(⟨3⟩, 1)]⟩, ⟨3, [(⟨7⟩, 2)]⟩]

/-- Forward routine = reverse routine is NOT an operation-for-operation identity: over `Fix1` the 1×1 Jacobian `dy/dx` of
    `chain3` is 12 by the forward routine and 12.5 by the reverse routine. -/
theorem C02_refute_fwd_eq_rev_lawfree :
    ¬ (∀ (R : Type) [Add R] [Mul R] [Zero R] [One R] (nz : R → Bool) (t : List (Stmt R)) (c : JacCfg)
        (indep dep : List Nat) (out : Out R), 0 < c.W →
        LayoutOK dep.length indep.length c.depOff c.indepOff out.length →
        jacFwdSerial t c indep dep out = jacRevSerialB nz t c indep dep out) := by
  intro h
  have := h Fix1 (fun a => decide (a ≠ 0)) chain3 ⟨1, 4, 1, 1⟩ [0] [3] [0] (by decide) (C02_layout_colmajor 1 1)
  revert this
  decide

example : jacFwdSerial chain3 ⟨1, 4, 1, 1⟩ [0] [3] [0] = [⟨24⟩] := by decide
example : jacRevSerialB (fun a => decide (a ≠ 0)) chain3 ⟨1, 4, 1, 1⟩ [0] [3] [0] = [⟨25⟩] := by decide

/-- zero, one, and an absorbing element -/
inductive Abs3
  | z | o | n
deriving DecidableEq, Repr

instance : Add Abs3 := ⟨fun a b => match a, b with
  | .n, _ => .n | _, .n => .n | .z, x => x | x, .z => x | .o, .o => .n⟩
instance : Mul Abs3 := ⟨fun a b => match a, b with
  | .n, _ => .n | _, .n => .n | .z, _ => .z | _, .z => .z | .o, .o => .o⟩
instance : Zero Abs3 := ⟨.z⟩
instance : One Abs3 := ⟨.o⟩

/-- `y₁ = 1·x; y₂ = n·x` (slots 0 1 2) -/
def infTape : List (Stmt Abs3) := [⟨1, [(.o, 0)]⟩, ⟨2, [(.n, 0)]⟩]

/-- Reverse Jacobian row = unit-seeded adjoint pass is NOT an operation-for-operation identity for blocks of more than
    one lane: over `Abs3`, `∂y₁/∂x` of `infTape` is `n` by the reverse routine with `W = 2` and `1` by `compute_adjoint`. -/
theorem C02_refute_rev_row_lawfree :
    ¬ (∀ (R : Type) [Add R] [Mul R] [Zero R] [One R] (nz : R → Bool) (t : List (Stmt R)) (c : JacCfg)
        (indep dep : List Nat) (out : Out R), 0 < c.W →
        LayoutOK dep.length indep.length c.depOff c.indepOff out.length →
        LF.JacSpecE (fun i j => LF.entryRev nz t c.maxGrad (indep.getD j 0) (dep.getD i 0)) dep.length indep.length
          c.depOff c.indepOff out (jacRevSerialB nz t c indep dep out)) := by
  intro h
  have := (h Abs3 (fun a => decide (a ≠ .z)) infTape ⟨2, 3, 1, 2⟩ [0] [1, 2] [.z, .z] (by decide)
    (C02_layout_colmajor 2 1)).2.1 0 0 (by decide) (by decide)
  revert this
  decide

/-- Blocked = unblocked is NOT an operation-for-operation identity for the reverse routine: `W = 2` against `W = 1`. -/
theorem C02_refute_rev_blocked_lawfree :
    ¬ (∀ (R : Type) [Add R] [Mul R] [Zero R] [One R] (nz : R → Bool) (t : List (Stmt R)) (c : JacCfg) (W' : Nat)
        (indep dep : List Nat) (out : Out R), 0 < c.W → 0 < W' →
        LayoutOK dep.length indep.length c.depOff c.indepOff out.length →
        jacRevSerialB nz t c indep dep out = jacRevSerialB nz t { c with W := W' } indep dep out) := by
  intro h
  have := h Abs3 (fun a => decide (a ≠ .z)) infTape ⟨2, 3, 1, 2⟩ 1 [0] [1, 2] [.z, .z] (by decide) (by decide)
    (C02_layout_colmajor 2 1)
  revert this
  decide

example : jacRevSerialB (fun a => decide (a ≠ Abs3.z)) infTape ⟨2, 3, 1, 2⟩ [0] [1, 2] [.z, .z] = [.n, .n] := by decide
example : jacRevSerialB (fun a => decide (a ≠ Abs3.z)) infTape ⟨1, 3, 1, 2⟩ [0] [1, 2] [.z, .z] = [.o, .n] := by decide
example : LF.entryRev (fun a => decide (a ≠ Abs3.z)) infTape 3 0 1 = .o := by decide

/-! ### non-vacuity of the law-free theorems: they apply to carriers without ring laws -/

/-- `u = 2.5 x₀ + 1.5 x₁; y = 3.5 u + 1.5 x₁ + 2.5 u` (slots 0 1 2 3) -/
def fan : List (Stmt Fix1) := [⟨2, [(⟨5⟩, 0), (⟨3⟩, 1)]⟩, ⟨3, [(⟨7⟩, 2), (⟨3⟩, 1), (⟨5⟩, 2)]⟩]

/-- C13, forward, on `Fix1` (5 independents, `W = 2`: blocks 0 1 2, the last of one lane; schedule 2,0,1) -/
example : jacFwdOmp fan ⟨2, 4, 1, 2⟩ [0, 1, 0, 1, 1] [3, 2] [2, 0, 1] (List.replicate 10 0) =
    jacFwdSerial fan ⟨2, 4, 1, 2⟩ [0, 1, 0, 1, 1] [3, 2] (List.replicate 10 0) :=
  C13_omp_eq_serial_fwd_lawfree fan ⟨2, 4, 1, 2⟩ [0, 1, 0, 1, 1] [3, 2] [2, 0, 1] _ (by decide)
    (C02_layout_colmajor 2 5) (by decide)

/-- … and the buffer is not trivial -/
example : jacFwdSerial fan ⟨2, 4, 1, 2⟩ [0, 1, 0, 1, 1] [3, 2] (List.replicate 10 0) =
    [⟨29⟩, ⟨5⟩, ⟨20⟩, ⟨3⟩, ⟨29⟩, ⟨5⟩, ⟨20⟩, ⟨3⟩, ⟨20⟩, ⟨3⟩] := by decide

/-- C13, reverse, on `Abs3` where the block flag is observable: parallel = serial all the same -/
example : jacRevOmpB (fun a => decide (a ≠ Abs3.z)) infTape ⟨2, 3, 1, 3⟩ [0] [1, 2, 1] [1, 0] [.z, .z, .z] =
    jacRevSerialB (fun a => decide (a ≠ Abs3.z)) infTape ⟨2, 3, 1, 3⟩ [0] [1, 2, 1] [.z, .z, .z] :=
  C13_omp_eq_serial_rev_lawfree _ infTape ⟨2, 3, 1, 3⟩ [0] [1, 2, 1] [1, 0] _ (by decide) (C02_layout_colmajor 3 1)
    (by decide)

example : jacRevSerialB (fun a => decide (a ≠ Abs3.z)) infTape ⟨2, 3, 1, 3⟩ [0] [1, 2, 1] [.z, .z, .z] = [.n, .n, .o] := by
  decide

/-- C02 `hskip` is satisfiable by a carrier that is not a ring (`Fix1`: `x + m*0 = x` although `*` is not associative) -/
example : ∀ x m a : Fix1, (fun a : Fix1 => decide (a ≠ 0)) a = false → x + m * a = x := by
  intro x m a h
  have ha : a = 0 := by simpa using h
  subst ha
  cases x with | mk xv =>
  cases m with | mk mv =>
  show (⟨xv + (mv * 0) / 2⟩ : Fix1) = ⟨xv⟩
  simp

/-- `SkipOK` is satisfiable where the unrestricted `hskip` is false: on `Abs3`, with `G` = everything and `Mok` = "not the
    absorbing element" (the finite multipliers) … -/
example : LF.SkipOK (fun a => decide (a ≠ Abs3.z)) (fun _ => True) (fun m => m ≠ Abs3.n) := by
  refine ⟨trivial, trivial, fun _ _ _ _ _ _ => trivial, ?_⟩
  intro x m a _ hm ha
  have : a = .z := by simpa using ha
  subst this
  cases m with
  | n => exact absurd rfl hm
  | z => cases x <;> rfl
  | o => cases x <;> rfl

/-- … while `hskip` itself fails there (`x + n*0 = n`) -/
example : ¬ ∀ x m a : Abs3, (fun a => decide (a ≠ Abs3.z)) a = false → x + m * a = x := by
  intro h
  have := h .o .n .z (by decide)
  revert this
  decide

end Adept.Tape
