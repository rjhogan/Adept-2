import AdeptProofs.Props.C04
/-!
Machine-checked counterexamples for the full-strength C04 statements the (fixed) code does not satisfy.
Each is the minimal witness of an open entry of `known_findings.json`; the model values are the ones the real
library produces (checks/c04.py replays the same witnesses against the C++ on every run).
-/
namespace Adept.Assign

/-- memory holding `xs` at addresses `0, 1, …` (0 elsewhere) -/
def memOf (xs : List Int) : Mem := ⟨fun k => if k < 0 then 0 else xs.getD k.toNat 0⟩

def image (m : Mem) (n : Nat) : List Int := (List.range n).map fun k => m (Int.ofNat k)

/-- how each `…_values` pair below refutes its full statement -/
theorem ne_of_image {m1 m2 : Mem} {n : Nat} {xs ys : List Int} (h1 : image m1 n = xs) (h2 : image m2 n = ys)
    (hne : xs ≠ ys) : m1 ≠ m2 :=
  fun e => hne (h1.symm.trans (e ▸ h2))

/-! ### F-25  `w.where(w(stride(4,0,-1)) > 3) = w(stride(4,0,-1))`, `w = 1..5` -/

def w25 : View := ⟨0, [5], [1]⟩
def r25 : View := ⟨4, [5], [-1]⟩
def mask25 : BExpr := .cmp .gt (.leaf r25) (.const 3)

/-- as coded: `5 4 3 2 1`;  mask and right-hand side first: `5 4 3 4 5` -/
theorem F25_values :
    image (assignConditional w25 mask25 (.leaf r25) (memOf [1, 2, 3, 4, 5])) 5 = [5, 4, 3, 2, 1] ∧
    image (storeWhere w25 (maskAll mask25 w25.dims (memOf [1, 2, 3, 4, 5]))
      (evalAll (.leaf r25) w25.dims (memOf [1, 2, 3, 4, 5])) (memOf [1, 2, 3, 4, 5])) 5 = [5, 4, 3, 4, 5] := by
  decide

theorem F25_where_semantics_full_refuted : ¬ WhereSemanticsFull := fun h =>
  ne_of_image F25_values.1 F25_values.2 (by decide)
    (h w25 mask25 (.leaf r25) (memOf [1, 2, 3, 4, 5]) ⟨rfl, by decide, by decide⟩
      (by show (View.cells _).Nodup; decide) (fun ix hx => hx) rfl)

/-! ### F-38  `A.where(A > 3) = either_or(0, 10)`, `A = {1, 5}` -/

def a29 : View := ⟨0, [2], [1]⟩
def mask29 : BExpr := .cmp .gt (.leaf a29) (.const 3)

/-- as coded: `0 0` (the mask is evaluated again after the first pass stored 10);  evaluate first: `10 0` -/
theorem F38_values :
    image (whereEitherOr a29 mask29 (.scalar 0) (.scalar 10) (memOf [1, 5])) 2 = [0, 0] ∧
    image (storeWhere a29 (maskAll mask29 a29.dims (memOf [1, 5])) ((WRhs.scalar 0).evalAll a29.dims (memOf [1, 5]))
      (storeWhere a29 (maskAll (.not mask29) a29.dims (memOf [1, 5])) ((WRhs.scalar 10).evalAll a29.dims (memOf [1, 5]))
        (memOf [1, 5]))) 2 = [10, 0] := by
  decide

theorem F38_either_or_semantics_full_refuted : ¬ EitherOrSemanticsFull := fun h =>
  ne_of_image F38_values.1 F38_values.2 (by decide)
    (h a29 mask29 (.scalar 0) (.scalar 10) (memOf [1, 5]) ⟨rfl, by decide, by decide⟩
      (by show (View.cells _).Nodup; decide) trivial trivial trivial trivial)

/-- the second half of F-38: with a mask held in a separate boolArray the TRUE branch is still evaluated after the
    false branch has been stored: `A = 1 2 3 4`, `M = T T F F`, `A.where(M) = either_or(A(stride(3,0,-1)), 0)`
    gives `0 0 0 0`, evaluate-first gives `4 3 0 0` -/
theorem F38_true_branch_values :
    let a : View := ⟨0, [4], [1]⟩
    let mk : BExpr := .lit fun ix => decide (ix.headD 0 < 2)
    let c : WRhs := .expr (.leaf ⟨3, [4], [-1]⟩)
    image (whereEitherOr a mk c (.scalar 0) (memOf [1, 2, 3, 4])) 4 = [0, 0, 0, 0] ∧
    image (storeWhere a (maskAll mk a.dims (memOf [1, 2, 3, 4])) (c.evalAll a.dims (memOf [1, 2, 3, 4]))
      (storeWhere a (maskAll (.not mk) a.dims (memOf [1, 2, 3, 4])) ((WRhs.scalar 0).evalAll a.dims (memOf [1, 2, 3, 4]))
        (memOf [1, 2, 3, 4]))) 4 = [4, 3, 0, 0] := by
  decide

/-! ### F-22  `FixedArray<…,3> v = {1,2,3}; v = v(stride(end,0,-1));` -/

def v22 : View := ⟨0, [3], [1]⟩
def r22 : View := ⟨2, [3], [-1]⟩

/-- as coded (and as the manual says): `3 2 3`;  evaluate first: `3 2 1` -/
theorem F22_values :
    image (fixedAssign v22 (.leaf r22) (memOf [1, 2, 3])) 3 = [3, 2, 3] ∧
    image (storeAll v22 (evalAll (.leaf r22) v22.dims (memOf [1, 2, 3])) (memOf [1, 2, 3])) 3 = [3, 2, 1] := by
  decide

theorem F22_fixed_semantics_full_refuted : ¬ FixedSemanticsFull := fun h =>
  ne_of_image F22_values.1 F22_values.2 (by decide)
    (h v22 (.leaf r22) (memOf [1, 2, 3]) ⟨rfl, by decide, by decide⟩
      (by show (View.cells _).Nodup; decide) (fun ix hx => hx) rfl)

/-! ### F-39  `v(idx) += w`, `idx = {1, 1}`, `v = {10,20,30}`, `w = {1,2}` (w at addresses 3, 4) -/

def v30 : IView := ⟨⟨0, [3], [1]⟩, [.list [1, 1]]⟩
def w30 : View := ⟨3, [2], [1]⟩

/-- as coded: `10 23 30` (the repeated element accumulates);  evaluate first, last write wins: `10 22 30` -/
theorem F39_values :
    image (indexedCompound .add v30 (.leaf w30) (memOf [10, 20, 30, 1, 2])) 3 = [10, 23, 30] ∧
    image (storeAllI v30 ((idxs v30.dims).map fun ix =>
        BOp.add.ap (memOf [10, 20, 30, 1, 2] (v30.addr ix)) ((Expr.leaf w30).evalAt (memOf [10, 20, 30, 1, 2]) ix))
      (memOf [10, 20, 30, 1, 2])) 3 = [10, 22, 30] := by
  decide

theorem F39_indexed_compound_semantics_full_refuted : ¬ IndexedCompoundSemanticsFull := fun h =>
  ne_of_image F39_values.1 F39_values.2 (by decide)
    (h .add v30 (.leaf w30) (memOf [10, 20, 30, 1, 2]) ⟨by decide, by decide⟩ (fun ix hx => hx) rfl)

end Adept.Assign
